-- Root of the `SemVerif` library: `lake build` checks every module of the development.
import SemVerif.Basic
import SemVerif.Props.All
import SemVerif.Props.C16Group
import SemVerif.Props.C17
import SemVerif.Props.C20
import SemVerif.Spec.Stats
