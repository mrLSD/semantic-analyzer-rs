import SemVerif.Lemmas.T1Fn
import SemVerif.Lemmas.FlowAna
import SemVerif.Lemmas.PanicConv
import SemVerif.Lemmas.BodySpec
import SemVerif.Lemmas.VisitLock
/-!
# Lemmas/VisitSim — the analyzer model evaluates exactly the leaves `Spec/ExtVisit.lean` lists

For *every* program whose analysis does not hit the documented panic (rejected ones included): analyzer model and visit specification walk the same
function from related scopes; the `ExtendedExpression` instructions of the root stack grow by the
leaves the specification lists, an evaluator succeeds exactly when the specification says the
operand analysed (with the same type), and value tables stay related to the specification's own
lexical scope — whatever errors are reported on the way.
-/
namespace SemVerif

def St.ext (s : St) : List Nat := s.root.context.filterMap Instr.extTag

theorem ext_of_ctx_app {s s' : St} {l : List Instr} (h : s'.root.context = s.root.context ++ l) :
    s'.ext = s.ext ++ l.filterMap Instr.extTag := by
  unfold St.ext; rw [h, List.filterMap_append]

theorem ext_mapFrames (f : Block → Block) (hf : ∀ b, (f b).context = b.context) (s : St) :
    (s.mapFrames f).ext = s.ext :=
  congrArg (List.filterMap Instr.extTag) (hf s.root)

theorem ext_mapCur (f : Block → Block) (hf : ∀ b, (f b).context = b.context) (s : St) :
    (s.mapCur f).ext = s.ext := by
  unfold St.mapCur
  cases s.inner with
  | nil => exact congrArg (List.filterMap Instr.extTag) (hf s.root)
  | cons b rest => rfl

structure VE (s s' : St) (t : List Nat) : Prop where
  vals : SameVals s s'
  ext : s'.ext = s.ext ++ t

section
variable {s s' : St} {t : List Nat}

theorem VE.refl (s : St) : VE s s [] := ⟨rfl, (List.append_nil _).symm⟩

theorem VE.trans {s1 s2 : St} {t1 t2 : List Nat} (h1 : VE s s1 t1) (h2 : VE s1 s2 t2) : VE s s2 (t1 ++ t2) :=
  ⟨h2.vals.trans h1.vals, by rw [h2.ext, h1.ext, List.append_assoc]⟩

theorem VE.scope {sc : Scope} (h : VE s s' t) (hs : ScopeRel s sc) : ScopeRel s' sc :=
  scopeRel_of_sameVals hs h.vals

theorem VE.mapFrames (h : VE s s' t) (f : Block → Block) (hv : ∀ b, (f b).values = b.values)
    (hc : ∀ b, (f b).context = b.context) : VE s (s'.mapFrames f) t :=
  ⟨(vals_mapFrames f hv s').trans h.vals, (ext_mapFrames f hc s').trans h.ext⟩

theorem VE.incReg (h : VE s s' t) : VE s s'.incReg t :=
  h.mapFrames _ (fun _ => rfl) (fun _ => rfl)

theorem VE.addErr (h : VE s s' t) (k : ErrKind) (v : Name) (l o : Nat) : VE s (s'.addErr k v l o) t :=
  ⟨h.vals, h.ext⟩

theorem VE.ite {a b : St} (c : Prop) [Decidable c] (ha : VE s a t) (hb : VE s b t) :
    VE s (if c then a else b) t := by
  split
  · exact ha
  · exact hb

theorem VE.addErrIf (h : VE s s' t) (c : Prop) [Decidable c] (k : ErrKind) (v : Name) (l o : Nat) :
    VE s (if c then s'.addErr k v l o else s') t := .ite c (h.addErr k v l o) h

theorem VE.push (h : VE s s' t) (i : Instr) (hi : i.extTag = none := by rfl) : VE s (s'.push i) t :=
  ⟨(vals_push i s').trans h.vals, by
    rw [ext_of_ctx_app (ctx_push i s'), List.filterMap_cons_none hi, List.filterMap_nil, List.append_nil]; exact h.ext⟩

end

def VSim (sc : Scope) (m : EvalM) (v : VRes) : Prop :=
  ∀ s, ScopeRel s sc → SameVals s (m s).2 ∧ (m s).2.ext = s.ext ++ v.1 ∧
    (match v.2 with
     | some ty => ∃ r, (m s).1 = some r ∧ r.ty = ty
     | none => (m s).1 = none)

/-- how a `VSim` is shown: each exit of the evaluator is a `VE` and returns the specification's type -/
theorem VSim.of_run {sc : Scope} {m : EvalM} {v : VRes}
    (h : ∀ s, ScopeRel s sc → VE s (m s).2 v.1 ∧ (m s).1.map (·.ty) = v.2) : VSim sc m v := by
  intro s hs
  obtain ⟨e, ht⟩ := h s hs
  refine ⟨e.vals, e.ext, ?_⟩
  rw [← ht]
  cases (m s).1 with
  | none => rfl
  | some r => exact ⟨r, rfl, rfl⟩

theorem VSim.run {sc : Scope} {m : EvalM} {a : List Nat} {o : Option Ty} {s : St} (h : VSim sc m (a, o))
    (hs : ScopeRel s sc) : ∃ res s1, m s = (res, s1) ∧ VE s s1 a ∧ o = res.map (·.ty) := by
  obtain ⟨hv, he, hr⟩ := h s hs
  refine ⟨(m s).1, (m s).2, rfl, ⟨hv, he⟩, ?_⟩
  cases o with
  | none => rw [show (m s).1 = none from hr]; rfl
  | some ty => obtain ⟨r, hr, rfl⟩ := hr; rw [hr]; rfl

section leaves
variable {g : Globals} {rg : RGlobals}

theorem vsim_var (hg : GlobRel g rg) (sc : Scope) (x : Name) :
    VSim sc (evalVar g x) ([], (checkVar rg sc x).2) := by
  refine .of_run fun s hs => ?_
  unfold evalVar checkVar
  rw [← scopeRel_lookup hs x, ← hg.consts x]
  cases s.lookupValue x with
  | some val => exact ⟨(VE.refl s).incReg.push _, rfl⟩
  | none =>
    cases g.consts x with
    | some c => exact ⟨(VE.refl s).incReg.push _, rfl⟩
    | none => exact ⟨(VE.refl s).incReg.addErr .., rfl⟩

theorem vsim_field (hg : GlobRel g rg) (sc : Scope) (x a : Name) :
    VSim sc (evalField g x a) ([], (checkField rg sc x a).2) := by
  refine .of_run fun s hs => ?_
  have err : ∀ k, VE s (s.addErr k x 1 0) [] ∧ Option.map (·.ty) (none : Option ExprResult) = none :=
    fun k => ⟨(VE.refl s).addErr .., rfl⟩
  unfold evalField checkField
  rw [← scopeRel_lookup hs x]
  cases s.lookupValue x with
  | none => exact err _
  | some val =>
    dsimp only [Option.map_some, projV]
    cases val.ty with
    | prim p => exact err _
    | array t n => exact err _
    | struct sn attrs =>
      dsimp only
      rw [← hg.types sn]
      cases g.types sn with
      | none => exact err _
      | some regTy =>
        dsimp only
        by_cases hne : Ty.struct sn attrs = regTy
        · rw [if_neg (not_not_intro hne), if_neg (not_not_intro hne)]
          cases attrs.lookup a with
          | none => exact err _
          | some p => exact ⟨((VE.refl s).incReg.push _).incReg, rfl⟩
        · rw [if_pos hne, if_pos hne]
          exact err _

theorem vsim_pair {sc : Scope} {l r : EvalM} {vl vr : VRes} (o : Op) (hl : VSim sc l vl) (hr : VSim sc r vr) :
    VSim sc (evalPair l o r) (visPair vl vr) := by
  obtain ⟨a, tl⟩ := vl
  obtain ⟨b, tr⟩ := vr
  refine .of_run fun s hs => ?_
  obtain ⟨lres, s1, hm1, e1, rfl⟩ := hl.run hs
  unfold evalPair visPair
  rw [hm1]
  cases lres with
  | none => exact ⟨e1, rfl⟩
  | some lv =>
    obtain ⟨rres, s2, hm2, e2, rfl⟩ := hr.run (e1.scope hs)
    dsimp only [Option.map_some]
    rw [hm2]
    cases rres with
    | none => exact ⟨e1.trans e2, rfl⟩
    | some rv =>
      dsimp only [Option.map_some]
      by_cases hne : lv.ty = rv.ty
      · rw [if_neg (not_not_intro hne), if_neg (not_not_intro hne)]
        exact ⟨(e1.trans e2).incReg.push _, rfl⟩
      · rw [if_pos hne, if_pos hne]
        exact ⟨(e1.trans e2).addErr .., rfl⟩

theorem vsim_tree {sc : Scope} {γ : Type} (fm : γ → EvalM) (fv : γ → VRes) (t : W γ)
    (h : ∀ a ∈ t.atoms, VSim sc (fm a) (fv a)) : VSim sc (runW (t.map fm)) (visTree (t.map fv)) := by
  induction t with
  | atom a => exact h a (List.mem_singleton_self a)
  | pair l o r ihl ihr =>
    exact vsim_pair o (ihl fun a ha => h a (List.mem_append_left _ ha)) (ihr fun a ha => h a (List.mem_append_right _ ha))

/-- the argument loop: arguments are evaluated up to the first that does not analyse -/
theorem vsim_args {sc : Scope} {α : Type} (fm : α → EvalM) (fv : α → VRes) :
    ∀ (as : List α), (∀ a ∈ as, VSim sc (fm a) (fv a)) →
    ∀ (tys : List Ty) (s : St), as.length ≤ tys.length → ScopeRel s sc →
    VE s (evalArgs (as.map fm) tys s).2 (visArgsL (as.map fv)) ∧
    (evalArgs (as.map fm) tys s).1.isSome = (as.map fv).all (·.2.isSome)
  | [] => fun _ _ s _ _ => ⟨VE.refl s, rfl⟩
  | a :: rest => fun h tys s hlen hs => by
    have ha := h a (List.mem_cons_self ..)
    have ih := vsim_args fm fv rest fun x hx => h x (List.mem_cons_of_mem _ hx)
    rw [List.map_cons, List.map_cons]
    generalize fv a = v at ha ⊢
    obtain ⟨x, o⟩ := v
    obtain ⟨res, s1, hm, e1, rfl⟩ := ha.run hs
    unfold evalArgs
    rw [hm]
    cases res with
    | none => exact ⟨e1, rfl⟩
    | some r =>
      cases tys with
      | nil => exact absurd hlen (Nat.not_succ_le_zero _)
      | cons t ts =>
        dsimp only
        by_cases hty : r.ty = t
        · rw [if_neg (not_not_intro hty)]
          obtain ⟨e2, i3⟩ := ih ts s1 (Nat.le_of_succ_le_succ hlen) (e1.scope hs)
          generalize evalArgs (rest.map fm) ts s1 = p at e2 i3 ⊢
          obtain ⟨rres, s2⟩ := p
          cases rres with
          | none => exact ⟨e1.trans e2, i3⟩
          | some rs => exact ⟨e1.trans e2, i3⟩
        · rw [if_pos hty]
          obtain ⟨e2, i3⟩ := ih ts _ (Nat.le_of_succ_le_succ hlen) ((e1.addErr ..).scope hs)
          exact ⟨(e1.addErr ..).trans e2, i3⟩

theorem vsim_functionCall (hg : GlobRel g rg) {sc : Scope} (f : Name) (args : List Expr)
    (h : ∀ e ∈ args, VSim sc (exprM g e) (visE rg sc e)) (s : St) (hs : ScopeRel s sc) :
    VE s (functionCall g f (argsM g args) s).2 (visV rg sc (.call f args)).1 ∧
    (functionCall g f (argsM g args) s).1 = (visV rg sc (.call f args)).2 := by
  unfold functionCall
  rw [visV_call_eq, argsM_eq, visEs_eq, ← hg.funcs f, List.length_map]
  cases g.funcs f with
  | none => exact ⟨(VE.refl s).addErr .., rfl⟩
  | some fd =>
    dsimp only [Option.map_some]
    by_cases hlen : fd.params.length < args.length
    · rw [if_pos hlen, if_pos hlen]
      exact ⟨(VE.refl s).addErr .., rfl⟩
    · rw [if_neg hlen, if_neg hlen]
      obtain ⟨e1, i3⟩ := vsim_args (exprM g) (visE rg sc) args h fd.params s (Nat.le_of_not_lt hlen) hs
      rw [← i3]
      generalize evalArgs (args.map (exprM g)) fd.params s = p at e1 ⊢
      obtain ⟨rres, s2⟩ := p
      cases rres with
      | none => exact ⟨e1, rfl⟩
      | some ps => exact ⟨e1.incReg.push _, rfl⟩

end leaves

mutual
theorem vsim_exprM {g : Globals} {rg : RGlobals} (hg : GlobRel g rg) (sc : Scope) :
    ∀ e, VSim sc (exprM g e) (visE rg sc e)
  | .mk v rest => by
    rw [visE_mk]
    show VSim sc (runW (foldChain Generated.prio (valM g v) (restM g rest))) _
    rw [restM_eq, foldChain_map Generated.prio (valM g)]
    refine vsim_tree (valM g) (visV rg sc) _ fun a ha => ?_
    rcases foldChain_atoms_subset Generated.prio v (chainTail rest) a ha with h | h
    · rw [h]; exact vsim_valM hg sc v
    · obtain ⟨⟨o, a'⟩, hm, rfl⟩ := List.mem_map.mp h
      exact vsim_chain hg sc rest o a' hm
termination_by structural e => e
theorem vsim_chain {g : Globals} {rg : RGlobals} (hg : GlobRel g rg) (sc : Scope) :
    ∀ r, ∀ o a, (o, a) ∈ chainTail r → VSim sc (valM g a) (visV rg sc a)
  | none => by intro o a h; unfold chainTail at h; cases h
  | some (op, .mk v rest) => by
    intro o a h
    unfold chainTail at h
    rcases List.mem_cons.mp h with h | h
    · rw [(Prod.mk.inj h).2]; exact vsim_valM hg sc v
    · exact vsim_chain hg sc rest o a h
termination_by structural r => r
theorem vsim_valM {g : Globals} {rg : RGlobals} (hg : GlobRel g rg) (sc : Scope) :
    ∀ v, VSim sc (valM g v) (visV rg sc v)
  | .var n => vsim_var hg sc n
  | .lit v => .of_run fun s _ => ⟨VE.refl s, rfl⟩
  | .call f args => by
    refine .of_run fun s hs => ?_
    obtain ⟨e1, i3⟩ := vsim_functionCall hg f args (vsim_args' hg sc args) s hs
    unfold valM evalCall
    rw [← i3]
    generalize functionCall g f (argsM g args) s = p at e1 ⊢
    obtain ⟨res, s1⟩ := p
    cases res with
    | none => exact ⟨e1, rfl⟩
    | some ty => exact ⟨e1.incReg, rfl⟩
  | .field v a => vsim_field hg sc v a
  | .sub e => vsim_exprM hg sc e
  | .ext tag ty =>
    .of_run fun s _ => ⟨⟨(vals_push _ _).trans (vals_incReg s), ext_of_ctx_app (ctx_push _ s.incReg)⟩, rfl⟩
termination_by structural v => v
theorem vsim_args' {g : Globals} {rg : RGlobals} (hg : GlobRel g rg) (sc : Scope) :
    ∀ (as : List Expr), ∀ e ∈ as, VSim sc (exprM g e) (visE rg sc e)
  | [] => fun e h => nomatch h
  | a :: as => by
    intro e h
    rcases List.mem_cons.mp h with h | h
    · rw [h]; exact vsim_exprM hg sc a
    · exact vsim_args' hg sc as e h
termination_by structural as => as
end

structure VS (s s' : St) (sc' : Scope) (tags : List Nat) : Prop where
  scope : ScopeRel s' sc'
  len : s'.inner.length = s.inner.length
  ext : s'.ext = s.ext ++ tags

theorem VS.refl {s : St} {sc : Scope} (hs : ScopeRel s sc) : VS s s sc [] := ⟨hs, rfl, (List.append_nil _).symm⟩

theorem VS.trans {s s1 s2 : St} {sc1 sc2 : Scope} {t1 t2 : List Nat} (h1 : VS s s1 sc1 t1) (h2 : VS s1 s2 sc2 t2) :
    VS s s2 sc2 (t1 ++ t2) :=
  ⟨h2.scope, by rw [h2.len, h1.len], by rw [h2.ext, h1.ext, List.append_assoc]⟩

theorem VS.silent {s s1 s2 : St} {sc : Scope} {t : List Nat} (h : VS s s1 sc t) (hv : s2.vals = s1.vals)
    (hl : s2.inner.length = s1.inner.length) (hc : s2.ext = s1.ext) : VS s s2 sc t :=
  ⟨by unfold ScopeRel; rw [hv]; exact h.scope, by rw [hl, h.len], by rw [hc, h.ext]⟩

theorem VE.toVS {s s' : St} {t : List Nat} {sc : Scope} (h : VE s s' t) (hs : ScopeRel s sc)
    (hl : s'.inner.length = s.inner.length) : VS s s' sc t := ⟨h.scope hs, hl, h.ext⟩

variable {g : Globals} {rg : RGlobals}

/-- `values.insert`, `set_inner_value_name` and the declaring instruction: the name is declared in
the scope, no leaf is evaluated -/
theorem v_declare {s : St} {sc : Scope} (hs : ScopeRel s sc) (n inner : Name) (v : Value) (i : Instr)
    (hi : i.extTag = none) :
    ScopeRel (((s.insertValue n v).registerInner inner).push i) (sc.declare n v.ty v.mutable) ∧
    (((s.insertValue n v).registerInner inner).push i).ext = s.ext := by
  constructor
  · unfold ScopeRel
    rw [vals_push, vals_registerInner]
    obtain ⟨x, rest, hx, hx'⟩ := vals_insertValue n v s
    rw [hx']
    exact valsRel_declare (hx ▸ hs) n v
  · rw [((VE.refl _).push i hi).ext, List.append_nil]
    exact (ext_mapFrames _ (fun _ => by rfl) _).trans (ext_mapCur _ (fun _ => by rfl) s)

theorem v_let (hg : GlobRel g rg) (b : LetB) (s : St) (sc : Scope) (hs : ScopeRel s sc) :
    VS s (letBinding g b s) (visLetSc rg sc b) (visE rg sc b.value).1 := by
  suffices h : ScopeRel (letBinding g b s) (visLetSc rg sc b) ∧
      (letBinding g b s).ext = s.ext ++ (visE rg sc b.value).1 from ⟨h.1, (esteps_letBinding g b s).inner_len, h.2⟩
  obtain ⟨res, s1, hm, e1, ho⟩ := (vsim_exprM hg sc b.value).run hs
  unfold letBinding visLetSc
  rw [hm, ho]
  cases res with
  | none => exact ⟨e1.scope hs, e1.ext⟩
  | some r =>
    dsimp only [Option.map_some]
    cases letTypeBad b.ty r.ty with
    | true => exact ⟨e1.scope hs, e1.ext⟩
    | false =>
      obtain ⟨d1, d2⟩ := v_declare (e1.scope hs) b.name (letInnerName s1 b.name)
        ⟨letInnerName s1 b.name, r.ty, b.mutable, false, false⟩ (.letBinding _ r) rfl
      exact ⟨d1, d2.trans e1.ext⟩

theorem v_bind (hg : GlobRel g rg) (b : Bind) (s : St) (sc : Scope) (hs : ScopeRel s sc) :
    VS s (binding g b s) sc (visE rg sc b.value).1 := by
  refine VE.toVS ?_ hs (esteps_binding g b s).inner_len
  obtain ⟨res, s1, hm, e1, -⟩ := (vsim_exprM hg sc b.value).run hs
  unfold binding
  rw [hm]
  cases res with
  | none => exact e1
  | some r =>
    dsimp only
    cases s1.lookupValue b.name with
    | none => exact e1.addErr ..
    | some value =>
      exact .ite _ (e1.addErr ..) (.ite _ (e1.addErr ..) (e1.push _))

theorem v_nestedRet (hg : GlobRel g rg) (e : Expr) (s : St) (sc : Scope) (hs : ScopeRel s sc) :
    VS s (nestedReturn g e s).1 sc (visE rg sc e).1 := by
  refine VE.toVS ?_ hs (nestedReturn_len e s)
  obtain ⟨res, s1, hm, e1, -⟩ := (vsim_exprM hg sc e).run hs
  unfold nestedReturn
  rw [hm]
  cases res with
  | none => exact e1
  | some r => exact (e1.push _).mapFrames _ (fun _ => rfl) (fun _ => rfl)

theorem v_forbidden (rc bc cc : Bool) (s : St) : VE s (forbidden rc bc cc s) [] :=
  (((VE.refl s).addErrIf ..).addErrIf ..).addErrIf ..

theorem v_condStep (hg : GlobRel g rg) (sc : Scope) (c : CmpCond) (right : Option (Logic × LogicCond)) (s : St)
    (hs : ScopeRel s sc)
    (ih : ∀ lg rc, right = some (lg, rc) → ∀ s, ScopeRel s sc → VE s (condExprM g rc s).2 (visLogic rg sc rc)) :
    VE s (condExprM g (.mk c right) s).2 (visLogic rg sc (.mk c right)) := by
  obtain ⟨l, s1, hm1, e1, ho1⟩ := (vsim_exprM hg sc c.left).run hs
  obtain ⟨r, s2, hm2, e2, ho2⟩ := (vsim_exprM hg sc c.right).run (e1.scope hs)
  have e := e1.trans e2
  unfold condExprM visLogic
  rw [hm1]
  dsimp only
  rw [hm2, ho1, ho2]
  -- every exit but the last reports an error after the two sides, and the chain stops
  have err : ∀ k v, VE s (s2.addErr k v 1 0) ((visE rg sc c.left).1 ++ (visE rg sc c.right).1 ++ []) :=
    fun k v => e.trans ((VE.refl s2).addErr k v 1 0)
  cases l with
  | none => exact err ..
  | some l =>
    cases r with
    | none => exact err ..
    | some r =>
      dsimp only [Option.map_some]
      by_cases hty : l.ty = r.ty
      · rw [if_neg (not_not_intro hty)]
        cases hp : l.ty.isPrim with
        | false =>
          cases right with
          | none => exact err ..
          | some p => dsimp only; rw [hp, Bool.and_false]; exact err ..
        | true =>
          have e3 := e.incReg.push (.condExpr l r c.cond s2.incReg.curReg)
          cases right with
          | none => exact e3.trans (VE.refl _)
          | some p =>
            obtain ⟨lg, rc⟩ := p
            dsimp only
            rw [hp, Bool.and_true, decide_eq_true hty]
            have e4 := ih lg rc rfl _ (e3.scope hs)
            generalize condExprM g rc _ = q at e4 ⊢
            exact (e3.trans e4).incReg.push _
      · rw [if_pos hty]
        cases right with
        | none => exact err ..
        | some p => dsimp only; rw [decide_eq_false hty]; exact err ..

theorem v_condExpr (hg : GlobRel g rg) (sc : Scope) : ∀ (lc : LogicCond) (s : St), ScopeRel s sc →
    VE s (condExprM g lc s).2 (visLogic rg sc lc)
  | .mk c right => fun s hs => by
    refine v_condStep hg sc c right s hs ?_
    cases right with
    | none => exact fun _ _ h => nomatch h
    | some p =>
      obtain ⟨lg, rc⟩ := p
      intro lg' rc' h
      rw [← (Prod.mk.inj (Option.some.inj h)).2]
      exact v_condExpr hg sc rc

theorem v_ifCondCalc (hg : GlobRel g rg) (c : IfCond) (lb le ln : Name) (isElse : Bool) (s : St) (sc : Scope)
    (hs : ScopeRel s sc) : VE s (ifCondCalc g c lb le ln isElse s) (visIfCond rg sc c) := by
  unfold ifCondCalc visIfCond
  cases c with
  | single e =>
    obtain ⟨res, s1, hm, e1, -⟩ := (vsim_exprM hg sc e).run hs
    dsimp only
    rw [hm]
    cases res with
    | none => exact e1
    | some r => exact e1.push _
  | logic lc => exact (v_condExpr hg sc lc s hs).push _

theorem visLetSc_tail (sc : Scope) (b : LetB) : (visLetSc rg sc b).tail = sc.tail := by
  unfold visLetSc
  split
  · split
    · rfl
    · exact declare_tail _ _ _ _
  · rfl

theorem ext_of_ctx_ctl {s s' : St} {l : List Instr} (h : s'.root.context = s.root.context ++ l)
    (hl : l.filterMap Instr.extTag = []) : s'.ext = s.ext := by
  rw [ext_of_ctx_app h, hl, List.append_nil]

theorem scopeRel_nil {s s1 : St} {sc : Scope} (hv : s1.vals = [] :: s.vals) (hs : ScopeRel s sc) :
    ScopeRel s1 ([] :: sc) := by
  unfold ScopeRel; rw [hv]; exact ValsRel.cons (fun _ => rfl) hs

/-- a block around a body: entered at `s1` (one more live block, the leaves `t0` evaluated on the
way in), the body runs to `s2` in a scope whose outer frames are `sc`, the block is left at `s3` -/
theorem VS.block {s s1 s2 s3 : St} {sc sc' : Scope} {t0 t : List Nat}
    (hl1 : s1.inner.length = s.inner.length + 1) (hx1 : s1.ext = s.ext ++ t0) (hB : VS s1 s2 sc' t) (htl : sc'.tail = sc)
    (h3 : s2.inner ≠ [] → s3.vals = s2.vals.tail ∧ s3.inner.length + 1 = s2.inner.length) (hx3 : s3.ext = s2.ext) :
    VS s s3 sc (t0 ++ t) := by
  obtain ⟨hv3, hl3⟩ := h3 (inner_ne_of_len (hB.len.trans hl1))
  refine ⟨?_, ?_, by rw [hx3, hB.ext, hx1, List.append_assoc]⟩
  · unfold ScopeRel; rw [hv3, ← htl]; exact scopeRel_tail hB.scope
  · exact Nat.succ.inj (hl3.trans (hB.len.trans hl1))

theorem v_ifPrologue (hg : GlobRel g rg) (cond : IfCond) (dup isElse : Bool) (le : Option Name) (s : St) (sc : Scope)
    (hs : ScopeRel s sc) :
    ScopeRel (ifPrologue g cond dup isElse le s).2.2 ([] :: sc) ∧
    (ifPrologue g cond dup isElse le s).2.2.inner.length = s.inner.length + 1 ∧
    (ifPrologue g cond dup isElse le s).2.2.ext = s.ext ++ visIfCond rg ([] :: sc) cond := by
  unfold ifPrologue
  dsimp only
  have e0 := (VE.refl s).addErrIf (dup = true) .ifElseDuplicated "if-condition".toList 1 0
  have l0 : (if dup = true then s.addErr .ifElseDuplicated "if-condition".toList 1 0 else s).inner.length =
      s.inner.length := by cases dup <;> rfl
  generalize (if dup = true then s.addErr .ifElseDuplicated "if-condition".toList 1 0 else s) = s0 at e0 l0 ⊢
  obtain ⟨_, hv, hl⟩ := ifLabels_fields le s0
  have hc := ctx_ifLabels le s0
  generalize ifLabels le s0 = q at hv hl hc ⊢
  obtain ⟨lBegin, lElse, lEnd, s1⟩ := q
  have hs1 : ScopeRel s1 ([] :: sc) := scopeRel_nil hv (e0.scope hs)
  have eC := (v_ifCondCalc hg cond lBegin lElse lEnd isElse s1 ([] :: sc) hs1).push (.setLabel lBegin)
  refine ⟨eC.scope hs1, ?_, ?_⟩
  · rw [(push_fields _ _).2, (esteps_ifCondCalc g cond lBegin lElse lEnd isElse s1).inner_len, hl, l0]
  · rw [eC.ext, ext_of_ctx_ctl (hc.trans (List.append_nil _).symm) rfl, e0.ext, List.append_nil]

theorem v_loopWrap (k : Name → Name → Bool → Bool → Bool → St → St × Bool) (tags : Scope → List Nat)
    (hk : ∀ lb le rc bc cc s sc, ScopeRel s sc → ∃ sc', VS s (k lb le rc bc cc s).1 sc' (tags sc) ∧ sc'.tail = sc.tail)
    (s : St) (sc : Scope) (hs : ScopeRel s sc) : VS s (loopWrap k s) sc (tags ([] :: sc)) := by
  unfold loopWrap
  obtain ⟨_, hv, hl⟩ := loopPrologue_fields s
  have hc := ctx_loopPrologue s
  generalize loopPrologue s = q at hv hl hc ⊢
  obtain ⟨lb, le, s1⟩ := q
  dsimp only
  obtain ⟨sc', hB, htl⟩ := hk lb le false false false s1 ([] :: sc) (scopeRel_nil hv hs)
  generalize k lb le false false false s1 = q2 at hB ⊢
  obtain ⟨s2, r⟩ := q2
  exact VS.block hl ((ext_of_ctx_ctl hc rfl).trans (List.append_nil _).symm) hB htl
    (fun hin => (loopEpilogue_fields r lb le s2 hin).2) (ext_of_ctx_ctl (ctx_loopEpilogue r lb le s2) (by cases r <;> rfl))

theorem v_nStmt (hg : GlobRel g rg) (K : BodyK) (st : NStmt) (f : Flags) (s : St) (sc : Scope)
    (hok : anaOKN K.ll.isSome st = true) (hs : ScopeRel s sc)
    (h : st.Sub
      (fun i => ∀ le ll s sc, IfStmt.anaOK ll.isSome i = true → ScopeRel s sc →
        VS s (ifCondition g i le ll s) sc (visIf rg i sc))
      (fun l => ∀ lb le rc bc cc s sc, LoopStmt.anaOKL l = true → ScopeRel s sc →
        ∃ sc', VS s (loopBody g l lb le rc bc cc s).1 sc' (visLoopBody rg l sc) ∧ sc'.tail = sc.tail)) :
    VS s (nStmt g K st f s).1 (visN rg st sc).2 (visN rg st sc).1 ∧ (visN rg st sc).2.tail = sc.tail := by
  unfold nStmt
  have e0 := v_forbidden f.rc f.bc f.cc s
  have h0 := e0.toVS hs (forbidden_len f.rc f.bc f.cc s)
  have hs0 := e0.scope hs
  generalize forbidden f.rc f.bc f.cc s = s0 at h0 hs0
  cases st with
  | letB b => exact ⟨h0.trans (v_let hg b s0 sc hs0), visLetSc_tail sc b⟩
  | bind b => exact ⟨h0.trans (v_bind hg b s0 sc hs0), rfl⟩
  | call c =>
    exact ⟨h0.trans ((vsim_functionCall hg c.name c.args (fun e _ => vsim_exprM hg sc e) s0 hs0).1.toVS hs0
      (esteps_callStmt g c s0).inner_len), rfl⟩
  | ifS i => exact ⟨h0.trans (h K.lEnd K.ll s0 sc hok hs0), rfl⟩
  | loop l =>
    exact ⟨h0.trans (v_loopWrap (loopBody g l) (visLoopBody rg l) (fun lb le rc bc cc s sc => h lb le rc bc cc s sc hok) s0 sc hs0), rfl⟩
  | ret e => exact ⟨h0.trans (v_nestedRet hg e s0 sc hs0), rfl⟩
  | brk => exact ⟨h0.trans (((VE.refl s0).push _).toVS hs0 (push_fields _ _).2), rfl⟩
  | cont => exact ⟨h0.trans (((VE.refl s0).push _).toVS hs0 (push_fields _ _).2), rfl⟩

theorem visIf_mk (rg : RGlobals) (cond : IfCond) (body : IfBodies) (els : Option IfBodies) (elif : Option IfStmt)
    (sc : Scope) :
    visIf rg (.mk cond body els elif) sc =
      visIfCond rg ([] :: sc) cond ++ visBodies rg body ([] :: sc) ++
        (match els, elif with
         | some eb, _ => visBodies rg eb ([] :: sc)
         | none, some ei => visIf rg ei sc
         | none, none => []) := by
  cases els <;> cases elif <;> rfl

theorem v_ind (hg : GlobRel g rg) : BodyInd
    (fun i => ∀ le ll s sc, IfStmt.anaOK ll.isSome i = true → ScopeRel s sc →
      VS s (ifCondition g i le ll s) sc (visIf rg i sc))
    (fun b => ∀ lEnd ll s sc, IfBodies.anaOK ll.isSome b = true → ScopeRel s sc →
      ∃ sc', VS s (ifBodies g b lEnd ll s).1 sc' (visBodies rg b sc) ∧ sc'.tail = sc.tail)
    (fun l => ∀ lEnd ll rc s sc, IfBodyStmt.anaOKL ll.isSome l = true → ScopeRel s sc →
      ∃ sc', VS s (ifBody g l lEnd ll rc s).1 sc' (visIfBody rg l sc) ∧ sc'.tail = sc.tail)
    (fun l => ∀ lEnd lb le rc bc cc s sc, IfLoopStmt.anaOKL l = true → ScopeRel s sc →
      ∃ sc', VS s (ifLoopBody g l lEnd lb le rc bc cc s).1 sc' (visIfLoopBody rg l sc) ∧ sc'.tail = sc.tail)
    (fun l => ∀ lb le rc bc cc s sc, LoopStmt.anaOKL l = true → ScopeRel s sc →
      ∃ sc', VS s (loopBody g l lb le rc bc cc s).1 sc' (visLoopBody rg l sc) ∧ sc'.tail = sc.tail) where
  ifS cond body els elif hbody hels helif le ll s sc hok hs := by
    rw [IfStmt.anaOK_mk, Bool.and_eq_true] at hok
    rw [visIf_mk]
    unfold ifCondition
    dsimp only
    obtain ⟨p1, p2, p3⟩ := v_ifPrologue hg cond (els.isSome && elif.isSome) (els.isSome || elif.isSome) le s sc hs
    generalize ifPrologue g cond (els.isSome && elif.isSome) (els.isSome || elif.isSome) le s = p at p1 p2 p3 ⊢
    obtain ⟨lElse, lEnd, s1⟩ := p
    dsimp only
    obtain ⟨scB, hB, htlB⟩ := hbody lEnd ll s1 ([] :: sc) hok.1 p1
    generalize ifBodies g body lEnd ll s1 = q at hB ⊢
    obtain ⟨s2, r⟩ := q
    dsimp only
    have h3 := VS.block p2 p3 hB htlB (fun hin => (ifAfterBody_fields (els.isSome || elif.isSome) r lElse lEnd s2 hin).2)
      (ext_of_ctx_ctl (ctx_ifAfterBody (els.isSome || elif.isSome) r lElse lEnd s2)
        (by cases r <;> cases (els.isSome || elif.isSome) <;> rfl))
    generalize ifAfterBody (els.isSome || elif.isSome) r lElse lEnd s2 = q3 at h3 ⊢
    obtain ⟨k, s3⟩ := q3
    dsimp only
    refine VS.silent ?_ (ifEpilogue_fields k le lEnd _).2.1 (ifEpilogue_fields k le lEnd _).2.2
      (ext_of_ctx_ctl (ctx_ifEpilogue k le lEnd _) (by cases le <;> rfl))
    cases els with
    | some eb =>
      dsimp only
      obtain ⟨scE, hD, htlE⟩ := hels eb rfl lEnd ll s3.enter ([] :: sc) hok.2 (scopeRel_enter h3.scope)
      generalize ifBodies g eb lEnd ll s3.enter = q4 at hD ⊢
      obtain ⟨s4, r4⟩ := q4
      exact h3.trans (VS.block (s1 := s3.enter) rfl (List.append_nil _).symm hD htlE
        (fun hin => (ifAfterElse_fields k r4 lEnd s4 hin).2)
        (ext_of_ctx_ctl (ctx_ifAfterElse k r4 lEnd s4) (by cases r4 <;> rfl)))
    | none =>
      cases elif with
      | some ei => exact h3.trans (helif ei rfl (some lEnd) ll s3 sc hok.2 h3.scope)
      | none => exact h3.trans (VS.refl h3.scope)
  ifb l h lEnd ll := h lEnd ll false
  loopb l h lEnd ll s sc hok hs := by
    cases ll with
    | none => exact absurd hok Bool.false_ne_true
    | some p => exact h lEnd p.1 p.2 false false false s sc hok hs
  ifNil _ _ _ _ sc _ hs := ⟨sc, VS.refl hs, rfl⟩
  ifCons st tl h ht lEnd ll rc s sc hok hs := by
    rw [IfBodyStmt.anaOKL_cons, Bool.and_eq_true] at hok
    rw [ifBody_cons, visIfBody_cons]
    have h1 := v_nStmt hg ⟨some lEnd, ll⟩ st.toN ⟨rc, false, false⟩ s sc hok.1 hs h
    exact (ht lEnd ll _ _ _ hok.2 h1.1.scope).imp fun _ h2 => ⟨h1.1.trans h2.1, h2.2.trans h1.2⟩
  ifLoopNil _ _ _ _ _ _ _ sc _ hs := ⟨sc, VS.refl hs, rfl⟩
  ifLoopCons st tl h ht lEnd lb le rc bc cc s sc hok hs := by
    rw [IfLoopStmt.anaOKL_cons, Bool.and_eq_true] at hok
    rw [ifLoopBody_cons, visIfLoopBody_cons]
    have h1 := v_nStmt hg ⟨some lEnd, some (lb, le)⟩ st.toN ⟨rc, bc, cc⟩ s sc hok.1 hs h
    exact (ht lEnd lb le _ _ _ _ _ hok.2 h1.1.scope).imp fun _ h2 => ⟨h1.1.trans h2.1, h2.2.trans h1.2⟩
  loopNil _ _ _ _ _ _ sc _ hs := ⟨sc, VS.refl hs, rfl⟩
  loopCons st tl h ht lb le rc bc cc s sc hok hs := by
    rw [LoopStmt.anaOKL_cons, Bool.and_eq_true] at hok
    rw [loopBody_cons, visLoopBody_cons]
    have h1 := v_nStmt hg ⟨none, some (lb, le)⟩ st.toN ⟨rc, bc, cc⟩ s sc hok.1 hs h
    exact (ht lb le _ _ _ _ _ hok.2 h1.1.scope).imp fun _ h2 => ⟨h1.1.trans h2.1, h2.2.trans h1.2⟩

theorem v_ifBodies (hg : GlobRel g rg) : ∀ (b : IfBodies) (lEnd : Name) (ll : Option (Name × Name)) (s : St) (sc : Scope),
    IfBodies.anaOK ll.isSome b = true → ScopeRel s sc →
    ∃ sc', VS s (ifBodies g b lEnd ll s).1 sc' (visBodies rg b sc) ∧ sc'.tail = sc.tail :=
  (v_ind hg).bodies

theorem v_ifBody (hg : GlobRel g rg) : ∀ (l : List IfBodyStmt) (lEnd : Name) (ll : Option (Name × Name)) (rc : Bool) (s : St) (sc : Scope),
    IfBodyStmt.anaOKL ll.isSome l = true → ScopeRel s sc →
    ∃ sc', VS s (ifBody g l lEnd ll rc s).1 sc' (visIfBody rg l sc) ∧ sc'.tail = sc.tail :=
  (v_ind hg).ifBody

theorem v_ifLoopBody (hg : GlobRel g rg) : ∀ (l : List IfLoopStmt) (lEnd lb le : Name) (rc bc cc : Bool) (s : St) (sc : Scope),
    IfLoopStmt.anaOKL l = true → ScopeRel s sc →
    ∃ sc', VS s (ifLoopBody g l lEnd lb le rc bc cc s).1 sc' (visIfLoopBody rg l sc) ∧ sc'.tail = sc.tail :=
  (v_ind hg).ifLoopBody

theorem v_stmt (hg : GlobRel g rg) (K : BodyK) (st : NStmt) (f : Flags) (s : St) (sc : Scope)
    (hok : anaOKN K.ll.isSome st = true) (hs : ScopeRel s sc) :
    VS s (nStmt g K st f s).1 (visN rg st sc).2 (visN rg st sc).1 ∧ (visN rg st sc).2.tail = sc.tail :=
  v_nStmt hg K st f s sc hok hs ((v_ind hg).sub st)

theorem v_fnReturn (hg : GlobRel g rg) (resTy : Ty) (e : Expr) (rc : Bool) (s : St) (sc : Scope) (hs : ScopeRel s sc) :
    VE s (fnReturn g resTy e rc s).1 (visE rg sc e).1 := by
  obtain ⟨res, s1, hm, e1, -⟩ := (vsim_exprM hg sc e).run hs
  unfold fnReturn
  rw [hm]
  dsimp only
  have e2 := e1.addErrIf (rc = true) .returnAlreadyCalled e.show 1 0
  generalize (if rc = true then s1.addErr .returnAlreadyCalled e.show 1 0 else s1) = s2 at e2 ⊢
  cases res with
  | none => exact e2
  | some r =>
    have e3 : VE s (checkTypeExists g r.ty e.show s2).2 (visE rg sc e).1 := by
      unfold checkTypeExists
      split
      · exact e2
      · split
        · exact e2
        · exact e2.addErr ..
    unfold fnReturnTail
    dsimp only
    generalize (checkTypeExists g r.ty e.show s2).2 = s3 at e3 ⊢
    have e4 := e3.addErrIf (resTy ≠ r.ty) .wrongReturnType e.show 1 0
    generalize (if resTy ≠ r.ty then s3.addErr .wrongReturnType e.show 1 0 else s3) = s4 at e4 ⊢
    exact .ite _ (e4.push _) (e4.push _)

theorem v_body (hg : GlobRel g rg) (resTy : Ty) : ∀ (l : List BodyStmt) (rc : Bool) (s : St) (sc : Scope),
    BodyStmt.anaOKL l = true → ScopeRel s sc → (bodyStmts g resTy l rc s).1.ext = s.ext ++ visBody rg l sc
  | [], _, s, sc, _, _ => (List.append_nil _).symm
  | st :: tl, rc, s, sc, hok, hs => by
    -- the rest of the body, after the head has run from `s` to `s1` and evaluated `t`
    have rest : ∀ rc' {s1 : St} {sc1 : Scope} {t : List Nat}, ScopeRel s1 sc1 → s1.ext = s.ext ++ t →
        BodyStmt.anaOKL tl = true → (bodyStmts g resTy tl rc' s1).1.ext = s.ext ++ (t ++ visBody rg tl sc1) :=
      fun rc' _ _ _ h1 h2 htl => by rw [v_body hg resTy tl rc' _ _ htl h1, h2, List.append_assoc]
    rw [BodyStmt.anaOKL_cons, Bool.and_eq_true] at hok
    rw [bodyStmts_cons, visBody_cons]
    generalize st.split = q at hok ⊢
    cases q with
    | inl n =>
      have h := (v_stmt hg ⟨none, none⟩ n ⟨rc, false, false⟩ s sc hok.1 hs).1
      exact rest rc h.scope h.ext hok.2
    | inr e =>
      have e1 := (v_forbidden rc false false s).trans (v_fnReturn hg resTy e rc _ sc ((v_forbidden rc false false s).scope hs))
      exact rest _ (e1.scope hs) e1.ext hok.2

theorem v_initParams : ∀ (ps : List (Name × ATy)) (s : St) (rs : RS), ScopeRel s rs.scope →
    ScopeRel (initParams ps s) (checkParams ps rs).scope ∧ (initParams ps s).ext = s.ext
  | [], s, rs, hs => ⟨hs, rfl⟩
  | (n, t) :: rest, s, rs, hs => by
    unfold initParams
    rw [checkParams_cons, ← scopeRel_lookup hs n]
    cases s.lookupValue n with
    | some v => exact ⟨hs, rfl⟩
    | none =>
      obtain ⟨d1, d2⟩ := v_declare hs n n ⟨n, t.toTy, false, false, false⟩ (.fnArg ⟨n, t.toTy, false, false, false⟩ ⟨n, t.toTy⟩) rfl
      obtain ⟨i1, i2⟩ := v_initParams rest _ { rs with scope := rs.scope.declare n t.toTy false } d1
      exact ⟨i1, i2.trans d2⟩

/-- what `C19_visited_all` (`P_C19_visited`) rests on; `hok` holds whenever the analysis does not hit the
documented panic (`anaOK_of_no_panic`) -/
theorem visit_function (hg : GlobRel g rg) (f : FnDecl) (hok : BodyStmt.anaOKL f.body = true) :
    (functionBody g f).root.context.filterMap Instr.extTag = visFn rg f := by
  show (functionBody g f).ext = _
  unfold functionBody visFn
  dsimp only
  obtain ⟨p1, p2⟩ := v_initParams f.params St.init { scope := [[]], viols := [] }
    (ValsRel.cons (fun _ => rfl) ValsRel.nil)
  have hb := v_body hg f.result.toTy f.body false (initParams f.params St.init) _ hok p1
  generalize bodyStmts g f.result.toTy f.body false (initParams f.params St.init) = q at hb ⊢
  obtain ⟨s2, rc⟩ := q
  cases rc <;> exact hb.trans (by rw [p2]; rfl)

end SemVerif
