import SemVerif.Spec.Flow
/-!
# Lemmas/FlowLay — the layout relation between a structured flow and jump code (family T4)

`Lay K n flows code ex`: the instruction list `code` implements the structured `flows`, whose
events are numbered from `n`; `K` are the labels of the enclosing loop (begin, end, and whether the
end label is available for `break`); `ex` says where control is when `flows` ends normally — it
falls off the end of `code`, or it has jumped to a label.  The relation is purely syntactic; labels
are names.  `Lemmas/FlowSim.lean` shows that laid-out code run as a jump program does what the
structured flow does; `Lemmas/FlowAna.lean` shows that the analyzer emits laid-out code.
-/
namespace SemVerif

def Instr.straight (i : Instr) : Bool := i.targets.isEmpty && i.setsLabel.isNone && !i.isRet

def effCount (l : List Instr) : Nat := (l.filter Instr.isEffect).length

theorem effCount_append (a b : List Instr) : effCount (a ++ b) = effCount a + effCount b := by
  simp [effCount, List.filter_append]

theorem effCount_cons (i : Instr) (l : List Instr) : effCount (i :: l) = (if i.isEffect then 1 else 0) + effCount l := by
  unfold effCount
  rw [List.filter_cons]
  cases i.isEffect
  · exact (Nat.zero_add _).symm
  · exact Nat.add_comm _ 1

inductive Exit where
  | fall
  | jump (l : Name)

abbrev LoopK := Option (Name × Name × Bool)

def endsRet : List Flow → Bool
  | [] => false
  | [.ret _] => true
  | _ :: rest => endsRet rest

inductive Lay : LoopK → Nat → List Flow → List Instr → Exit → Prop
  | nil (K : LoopK) (n : Nat) : Lay K n [] [] .fall
  /-- an instruction that does nothing the flow sees -/
  | skip {K : LoopK} {n : Nat} {fl : List Flow} {c : List Instr} {e : Exit} (i : Instr)
      (hs : i.straight = true) (he : i.isEffect = false) : Lay K n fl c e → Lay K n fl (i :: c) e
  | label {K : LoopK} {n : Nat} {fl : List Flow} {c : List Instr} {e : Exit} (l : Name) :
      Lay K n fl c e → Lay K n fl (.setLabel l :: c) e
  /-- an effect instruction: one event -/
  | eff {K : LoopK} {n : Nat} {fl : List Flow} {c : List Instr} {e : Exit} (i : Instr)
      (hs : i.straight = true) (he : i.isEffect = true) : Lay K (n + 1) fl c e → Lay K n (.ev n :: fl) (i :: c) e
  /-- a return instruction ends the run; what follows (flows and code) is never executed -/
  | ret (K : LoopK) (n : Nat) (fl : List Flow) (i : Instr) (c : List Instr) (e : Exit) (hr : i.isRet = true) :
      Lay K n (.ret n :: fl) (i :: c) e
  | brk (n : Nat) (fl : List Flow) (lb le : Name) (c : List Instr) (e : Exit) :
      Lay (some (lb, le, true)) n (.brk :: fl) (.jumpTo le :: c) e
  | cont (n : Nat) (fl : List Flow) (lb le : Name) (b : Bool) (c : List Instr) (e : Exit) :
      Lay (some (lb, le, b)) n (.cont :: fl) (.jumpTo lb :: c) e
  /-- the jump that ends an if / else body -/
  | jmp (K : LoopK) (n : Nat) (l : Name) (c : List Instr) : Lay K n [] (.jumpTo l :: c) (.jump l)
  /-- code after an exit by jump is dead -/
  | dead {K : LoopK} {n : Nat} {fl : List Flow} {c : List Instr} {l : Name} (d : List Instr) :
      Lay K n fl c (.jump l) → Lay K n fl (c ++ d) (.jump l)
  | loop {K : LoopK} {n : Nat} {body rest : List Flow} {bc c tail : List Instr} {e : Exit} (lb le : Name) (b : Bool) :
      Lay (some (lb, le, b)) n body bc .fall →
      (tail = [.jumpTo lb, .setLabel le] ∨ (tail = [] ∧ endsRet body = true ∧ b = false)) →
      Lay K (n + effCount bc) rest c e →
      Lay K n (.loop body :: rest) (.jumpTo lb :: .setLabel lb :: (bc ++ tail ++ c)) e
  /-- `if` without else part that owns its end label -/
  | iteOwn {K : LoopK} {n : Nat} {tb rest : List Flow} {tc c : List Instr} {e : Exit} (br : Instr) (lBegin lEnd : Name)
      (hbr : br.targets = [lBegin, lEnd]) (hnr : br.isRet = false) (hne : br.isEffect = false) :
      Lay K n tb tc (.jump lEnd) →
      Lay K (n + effCount tc) rest c e →
      Lay K n (.ite tb [] :: rest) (br :: .setLabel lBegin :: (tc ++ .setLabel lEnd :: c)) e
  /-- `if` with an else part (else body or else-if chain) that owns its end label -/
  | iteElseOwn {K : LoopK} {n : Nat} {tb eb rest : List Flow} {tc ec c : List Instr} {e : Exit} (br : Instr)
      (lBegin lElse lEnd : Name)
      (hbr : br.targets = [lBegin, lElse]) (hnr : br.isRet = false) (hne : br.isEffect = false) :
      Lay K n tb tc (.jump lEnd) →
      Lay K (n + effCount tc) eb ec (.jump lEnd) →
      Lay K (n + effCount tc + effCount ec) rest c e →
      Lay K n (.ite tb eb :: rest) (br :: .setLabel lBegin :: (tc ++ .setLabel lElse :: (ec ++ .setLabel lEnd :: c))) e
  /-- `if` without else part that was handed its end label: it leaves by a jump to it -/
  | itePass {K : LoopK} {n : Nat} {tb : List Flow} {tc : List Instr} (br : Instr) (lBegin lEnd : Name)
      (hbr : br.targets = [lBegin, lEnd]) (hnr : br.isRet = false) (hne : br.isEffect = false) :
      Lay K n tb tc (.jump lEnd) →
      Lay K n [.ite tb []] (br :: .setLabel lBegin :: tc) (.jump lEnd)
  | iteElsePass {K : LoopK} {n : Nat} {tb eb : List Flow} {tc ec : List Instr} (br : Instr) (lBegin lElse lEnd : Name)
      (hbr : br.targets = [lBegin, lElse]) (hnr : br.isRet = false) (hne : br.isEffect = false) :
      Lay K n tb tc (.jump lEnd) →
      Lay K (n + effCount tc) eb ec (.jump lEnd) →
      Lay K n [.ite tb eb] (br :: .setLabel lBegin :: (tc ++ .setLabel lElse :: ec)) (.jump lEnd)

theorem evs_succ (n c : Nat) : evs n (c + 1) = .ev n :: evs (n + 1) c := by
  unfold evs
  rw [List.range_succ_eq_map]
  simp [List.map_map, Function.comp_def, Nat.add_assoc, Nat.add_comm 1]

theorem lay_seg {K : LoopK} {fl : List Flow} {c : List Instr} {e : Exit} : ∀ (seg : List Instr) (n : Nat),
    (∀ i ∈ seg, i.straight = true) → Lay K (n + effCount seg) fl c e →
    Lay K n (evs n (effCount seg) ++ fl) (seg ++ c) e := by
  intro seg
  induction seg with
  | nil => exact fun _ _ h => h
  | cons i rest ih =>
    intro n hs h
    have hi := hs i (List.mem_cons_self ..)
    have hr : ∀ j ∈ rest, j.straight = true := fun j hj => hs j (List.mem_cons_of_mem _ hj)
    rw [effCount_cons] at h ⊢
    cases he : i.isEffect with
    | false =>
      simp only [he, Bool.false_eq_true, if_false, Nat.zero_add] at h ⊢
      exact Lay.skip i hi he (ih n hr h)
    | true =>
      simp only [he, if_true, ← Nat.add_assoc] at h
      simp only [if_true, Nat.add_comm 1, evs_succ]
      exact Lay.eff i hi he (ih (n + 1) hr h)

end SemVerif
