import SemVerif.Lemmas.Frames
import SemVerif.Spec.Stack
/-!
# Lemmas/Dts — the declaration trees of the live blocks (C18, value tables)

`St.dts s`: per live block (innermost first) its value table, the value records its stack declares
and the same for its finished children.  Nothing but declarations, entering and leaving a block
changes it.
-/
namespace SemVerif

def St.dts (s : St) : List DT := s.frames.map Block.dt

theorem dt_def (b : Block) : b.dt = .node b.values (declValues b.context) (Block.dtL b.children) := by
  cases b; rfl

theorem dtL_eq_map : ∀ (l : List Block), Block.dtL l = l.map Block.dt
  | [] => rfl
  | b :: bs => congrArg (b.dt :: ·) (dtL_eq_map bs)

theorem dtL_append (a b : List Block) : Block.dtL (a ++ b) = Block.dtL a ++ Block.dtL b := by
  rw [dtL_eq_map, dtL_eq_map, dtL_eq_map, List.map_append]

theorem declValues_append (a : List Instr) (i : Instr) :
    declValues (a ++ [i]) = declValues a ++ (match i.declares with | some v => [v] | none => []) := by
  unfold declValues
  rw [List.filterMap_append, List.filterMap_cons]
  cases i.declares <;> rfl

theorem dts_mapFrames (f : Block → Block) (s : St) (hf : ∀ b, (f b).dt = b.dt) : (s.mapFrames f).dts = s.dts := by
  unfold St.dts
  rw [frames_mapFrames, List.map_map]
  exact List.map_congr_left fun b _ => hf b

theorem dts_push_plain (i : Instr) (s : St) (h : i.declares = none) : (s.push i).dts = s.dts := by
  unfold St.push
  apply dts_mapFrames
  intro b
  rw [dt_def, dt_def]
  simp only [declValues_append, h, List.append_nil]

def DT.addDecl (v : Value) : DT → DT
  | .node vals d c => .node vals (d ++ [v]) c

theorem dts_push_decl (i : Instr) (v : Value) (s : St) (h : i.declares = some v) :
    (s.push i).dts = s.dts.map (DT.addDecl v) := by
  unfold St.push St.dts
  rw [frames_mapFrames, List.map_map, List.map_map]
  apply List.map_congr_left
  intro b _
  simp only [Function.comp]
  rw [dt_def, dt_def]
  simp only [declValues_append, h, DT.addDecl]

theorem dts_incReg (s : St) : s.incReg.dts = s.dts := by
  unfold St.incReg; exact dts_mapFrames _ s (fun b => by rw [dt_def, dt_def])

theorem dts_addErr (k : ErrKind) (v : Name) (l o : Nat) (s : St) : (s.addErr k v l o).dts = s.dts := rfl

theorem dts_probeLabel (stem : Name) (s : St) : (s.probeLabel stem).2.dts = s.dts := by
  unfold St.probeLabel; exact dts_mapFrames _ s (fun b => by rw [dt_def, dt_def])

theorem dts_setReturn (s : St) : s.setReturn.dts = s.dts := by
  unfold St.setReturn; exact dts_mapFrames _ s (fun b => by rw [dt_def, dt_def])

theorem dts_registerInner (n : Name) (s : St) : (s.registerInner n).dts = s.dts := by
  unfold St.registerInner; exact dts_mapFrames _ s (fun b => by rw [dt_def, dt_def])

def DT.setValues (f : List (Name × Value) → List (Name × Value)) : DT → DT
  | .node vals d c => .node (f vals) d c

def mapHead {α : Type} (f : α → α) : List α → List α
  | [] => []
  | x :: xs => f x :: xs

theorem dts_insertValue (n : Name) (v : Value) (s : St) :
    (s.insertValue n v).dts = mapHead (DT.setValues (assocInsert n v)) s.dts := by
  unfold St.insertValue St.dts
  rw [frames_mapCur]
  cases hf : s.frames with
  | nil => exact absurd hf (frames_ne_nil s)
  | cons b rest =>
    simp only [List.map_cons, mapHead]
    rw [dt_def, dt_def b]
    rfl

theorem dts_enter (s : St) : s.enter.dts = .node [] [] [] :: s.dts := by
  unfold St.dts
  rw [frames_enter]
  rw [List.map_cons, dt_def]
  rfl

def closeDts : List DT → List DT
  | t0 :: .node v d c :: r => .node v d (c ++ [t0]) :: r
  | k => k

theorem dts_leave (s : St) (h : s.inner ≠ []) : s.leave.2.dts = closeDts s.dts := by
  unfold St.leave St.dts St.frames
  cases hi : s.inner with
  | nil => exact absurd hi h
  | cons b rest =>
    cases rest with
    | nil =>
      show [Block.dt { s.root with children := s.root.children ++ [b] }] = closeDts [b.dt, s.root.dt]
      rw [dt_def, dt_def s.root, dtL_append]
      rfl
    | cons p rest' =>
      show Block.dt { p with children := p.children ++ [b] } :: _ = closeDts (b.dt :: p.dt :: _)
      rw [dt_def, dt_def p, dtL_append]
      rfl

theorem dtL_modifyNth (f : Block → Block) (hf : ∀ c, (f c).dt = c.dt) : ∀ (k : Nat) (cs : List Block),
    Block.dtL (modifyNth f k cs) = Block.dtL cs
  | 0, [] => rfl
  | _ + 1, [] => rfl
  | 0, c :: cs => congrArg (· :: Block.dtL cs) (hf c)
  | k + 1, c :: cs => congrArg (c.dt :: ·) (dtL_modifyNth f hf k cs)

theorem dts_pushVia (k : Nat) (i : Instr) (s : St) (h : i.declares = none) : (s.pushVia k i).dts = s.dts := by
  unfold St.pushVia
  rw [dts_push_plain _ _ h]
  unfold St.dts
  rw [frames_mapCur]
  cases s.frames with
  | nil => rfl
  | cons b0 rest =>
    simp only [List.map_cons]
    rw [dt_def, dt_def b0]
    rw [dtL_modifyNth _ (fun c => by rw [dt_def, dt_def]; simp only [declValues_append, h, List.append_nil])]

theorem dts_of_frames {s s' : St} (h : s'.frames = s.frames) : s'.dts = s.dts := by unfold St.dts; rw [h]

end SemVerif
