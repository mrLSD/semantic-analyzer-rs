import SemVerif.Lemmas.FoldAtoms
/-! # Lemmas/FoldMap — the precedence fold commutes with mapping the operands (it never looks at them) -/
namespace SemVerif

variable {α β : Type} (prio : Op → Nat) (f : α → β)

theorem popWhile_map (p : Nat) (vs : List (W α)) (os : List Op) :
    popWhile prio p (vs.map (W.map f)) os = ((popWhile prio p vs os).1.map (W.map f), (popWhile prio p vs os).2) := by
  induction vs, os using popWhile.induct prio p with
  | case1 r l vs o os hp ih =>
    rw [popWhile_cons, if_pos hp, ← ih]
    exact if_pos hp
  | case2 r l vs o os hp =>
    rw [popWhile_cons, if_neg hp]
    exact if_neg hp
  | case3 vs os h =>
    -- nothing to fold, before and after mapping
    have h' : ∀ r l vs1 o os1, vs.map (W.map f) = r :: l :: vs1 → os = o :: os1 → False := by
      intro r l vs1 o os1 hv ho
      obtain ⟨r', t, rfl, _, ht⟩ := List.map_eq_cons_iff.mp hv
      obtain ⟨l', t', rfl, _, _⟩ := List.map_eq_cons_iff.mp ht
      exact h _ _ _ _ _ rfl ho
    rw [popWhile_stop prio p h, popWhile_stop prio p h']

theorem foldStep_map (st : List (W α) × List Op) (x : Op × α) :
    foldStep prio (st.1.map (W.map f), st.2) (x.1, f x.2) =
      ((foldStep prio st x).1.map (W.map f), (foldStep prio st x).2) := by
  simp [foldStep, popWhile_map, W.map]

theorem foldl_map (rest : List (Op × α)) : ∀ (st : List (W α) × List Op),
    (rest.map fun x => (x.1, f x.2)).foldl (foldStep prio) (st.1.map (W.map f), st.2) =
      ((rest.foldl (foldStep prio) st).1.map (W.map f), (rest.foldl (foldStep prio) st).2) := by
  induction rest with
  | nil => intro st; rfl
  | cons x tl ih =>
    intro st
    simp only [List.map_cons, List.foldl_cons]
    rw [foldStep_map, ih]

theorem foldChain_map (v0 : α) (rest : List (Op × α)) :
    foldChain prio (f v0) (rest.map fun x => (x.1, f x.2)) = (foldChain prio v0 rest).map f := by
  unfold foldChain
  simp only
  have h := foldl_map prio f rest ([W.atom v0], [])
  simp only [List.map_cons, List.map_nil, W.map] at h
  rw [h, popWhile_map]
  simp only
  generalize (popWhile prio 0 (List.foldl (foldStep prio) ([W.atom v0], []) rest).1
    (List.foldl (foldStep prio) ([W.atom v0], []) rest).2).1 = r
  cases r <;> simp [List.headD, W.map]

end SemVerif
