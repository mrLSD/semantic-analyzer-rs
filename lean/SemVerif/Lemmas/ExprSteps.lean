import SemVerif.Lemmas.Steps
import SemVerif.Lemmas.FoldAtoms
/-! # Lemmas/ExprSteps — expressions, assignment, call and conditions are expression-level step chains
(`ESteps`; `if_condition_calculation` adds at most one branch push: `BSteps`, `ifCondCalc_split`) -/
namespace SemVerif

theorem ESteps.addErr {a s : St} (h : ESteps a s) (k : ErrKind) (v : Name) (l o : Nat) :
    ESteps a (s.addErr k v l o) := h.tail (.addErr s k v l o)

theorem ESteps.addErrIf {a s : St} (h : ESteps a s) (b : Bool) (k : ErrKind) (v : Name) (l o : Nat) :
    ESteps a (if b then s.addErr k v l o else s) := by
  cases b
  · exact h
  · exact h.addErr k v l o

theorem ESteps.ite {α : Type} {c : Prop} [Decidable c] {a : St} {p q : α × St} (hp : ESteps a p.2)
    (hq : ESteps a q.2) : ESteps a (if c then p else q).2 := by
  by_cases h : c
  · rw [if_pos h]
    exact hp
  · rw [if_neg h]
    exact hq

/-- take the next register and push an instruction that writes it and reads no value -/
theorem ESteps.write {a s : St} (h : ESteps a s) (i : Instr) (hw : i.writes = some s.incReg.curReg)
    (hd : i.declares = none) (hl : i.setsLabel = none) (hu : i.usesValue = none) (ht : i.targets = []) :
    ESteps a (s.incReg.push i) :=
  h.tail (.incEmit s i hw hd hl (fun v hv => by rw [hu] at hv; cases hv) ht)

theorem em_evalVar (g : Globals) (n : Name) : EM (evalVar g n) := by
  intro s
  unfold evalVar
  cases h : s.lookupValue n with
  | some val =>
    exact ESteps.single (.incEmit s _ rfl rfl rfl (fun v hv => ⟨n, Option.some.inj hv ▸ h⟩) rfl)
  | none =>
    cases hc : g.consts n with
    | some c => exact (ESteps.refl s).write _ rfl rfl rfl rfl rfl
    | none => exact (ESteps.single (.incReg s)).addErr _ _ _ _

theorem em_evalLit (v : PrimVal) : EM (evalLit v) := by
  intro s; exact ESteps.refl _

theorem em_evalExt (tag : Nat) (ty : PrimTy) : EM (evalExt tag ty) := by
  intro s
  exact (ESteps.refl s).write _ rfl rfl rfl rfl rfl

theorem em_evalField (g : Globals) (vn attr : Name) : EM (evalField g vn attr) := by
  intro s
  unfold evalField
  cases h : s.lookupValue vn with
  | none => exact (ESteps.refl s).addErr _ _ _ _
  | some val =>
    simp only
    split
    · rename_i sn attrs hty
      split
      · exact (ESteps.refl s).addErr _ _ _ _
      · split
        · exact (ESteps.refl s).addErr _ _ _ _
        · split
          · exact (ESteps.refl s).addErr _ _ _ _
          · simp only
            refine ESteps.tail (ESteps.single (EStep.incEmit s _ rfl rfl rfl ?_ rfl)) (EStep.incReg _)
            intro v hv; simp [Instr.usesValue] at hv; exact ⟨vn, hv ▸ h⟩
    · exact (ESteps.refl s).addErr _ _ _ _

theorem em_evalPair (l r : EvalM) (o : Op) (hl : EM l) (hr : EM r) : EM (evalPair l o r) := by
  intro s
  unfold evalPair
  have h1 := hl s
  cases hls : l s with
  | mk a s1 =>
    rw [hls] at h1
    cases a with
    | none => exact h1
    | some lv =>
      simp only
      have h2 := hr s1
      cases hrs : r s1 with
      | mk b s2 =>
        rw [hrs] at h2
        cases b with
        | none => exact h1.trans h2
        | some rv =>
          dsimp only
          exact .ite ((h1.trans h2).addErr _ _ _ _) ((h1.trans h2).write _ rfl rfl rfl rfl rfl)

theorem em_runW (t : W EvalM) (h : ∀ m ∈ t.atoms, EM m) : EM (runW t) := by
  induction t with
  | atom m => exact h m (by simp [W.atoms])
  | pair l o r ihl ihr =>
    exact em_evalPair _ _ _ (ihl fun m hm => h m (by simp [W.atoms, hm]))
      (ihr fun m hm => h m (by simp [W.atoms, hm]))

theorem esteps_evalArgs (ms : List EvalM) (h : ∀ m ∈ ms, EM m) :
    ∀ (tys : List Ty) (s : St), ms.length ≤ tys.length → ESteps s (evalArgs ms tys s).2 := by
  induction ms with
  | nil => intro tys s _; exact ESteps.refl _
  | cons m ms ih =>
    intro tys s hlen
    unfold evalArgs
    have h1 := h m List.mem_cons_self s
    cases hm : m s with
    | mk a s1 =>
      rw [hm] at h1
      cases a with
      | none => exact h1
      | some r =>
        simp only
        cases tys with
        | nil => exact absurd hlen (Nat.not_succ_le_zero _)
        | cons t ts =>
          have hlen' : ms.length ≤ ts.length := Nat.le_of_succ_le_succ hlen
          have ih' := ih (fun m hm => h m (List.mem_cons_of_mem _ hm)) ts
          dsimp only
          by_cases hty : r.ty ≠ t
          · rw [if_pos hty]
            exact (h1.addErr _ _ _ _).trans (ih' _ hlen')
          · rw [if_neg hty]
            have h3 := ih' s1 hlen'
            cases hr : evalArgs ms ts s1 with
            | mk b s2 =>
              rw [hr] at h3
              cases b <;> exact h1.trans h3

theorem esteps_functionCall (g : Globals) (name : Name) (args : List EvalM) (h : ∀ m ∈ args, EM m) (s : St) :
    ESteps s (functionCall g name args s).2 := by
  unfold functionCall
  cases g.funcs name with
  | none => exact (ESteps.refl s).addErr _ _ _ _
  | some fd =>
    dsimp only
    by_cases hlt : fd.params.length < args.length
    · rw [if_pos hlt]
      exact (ESteps.refl s).addErr _ _ _ _
    · rw [if_neg hlt]
      have h1 := esteps_evalArgs args h fd.params s (Nat.le_of_not_lt hlt)
      cases ha : evalArgs args fd.params s with
      | mk a s1 =>
        rw [ha] at h1
        cases a with
        | none => exact h1
        | some ps => exact h1.write _ rfl rfl rfl rfl rfl

theorem em_evalCall (g : Globals) (name : Name) (args : List EvalM) (h : ∀ m ∈ args, EM m) :
    EM (evalCall g name args) := by
  intro s
  unfold evalCall
  have h1 := esteps_functionCall g name args h s
  cases hf : functionCall g name args s with
  | mk a s1 =>
    rw [hf] at h1
    cases a with
    | none => exact h1
    | some ty => exact h1.tail (EStep.incReg _)

mutual
theorem em_exprM (g : Globals) : ∀ e, EM (exprM g e)
  | .mk v rest => by
    show EM (runW (foldChain Generated.prio (valM g v) (restM g rest)))
    apply em_runW
    intro m hm
    rcases foldChain_atoms_subset Generated.prio _ _ m hm with h | h
    · rw [h]; exact em_valM g v
    · simp at h
      obtain ⟨o, h⟩ := h
      exact em_restM g rest o m h
theorem em_restM (g : Globals) : ∀ r, ∀ o m, (o, m) ∈ restM g r → EM m
  | none => fun _ _ h => nomatch h
  | some (op, .mk v rest) => by
    intro o m h
    rcases List.mem_cons.mp (h : (o, m) ∈ (op, valM g v) :: restM g rest) with h | h
    · rw [(Prod.mk.inj h).2]; exact em_valM g v
    · exact em_restM g rest o m h
theorem em_valM (g : Globals) : ∀ v, EM (valM g v)
  | .var n => em_evalVar g n
  | .lit v => em_evalLit v
  | .call f args => em_evalCall g f _ (em_argsM g args)
  | .field v a => em_evalField g v a
  | .sub e => em_exprM g e
  | .ext tag ty => em_evalExt tag ty
theorem em_argsM (g : Globals) : ∀ as, ∀ m ∈ argsM g as, EM m
  | [] => fun _ h => nomatch h
  | e :: es => by
    intro m h
    rcases List.mem_cons.mp (h : m ∈ exprM g e :: argsM g es) with h | h
    · rw [h]; exact em_exprM g e
    · exact em_argsM g es m h
end

theorem esteps_binding (g : Globals) (b : Bind) (s : St) : ESteps s (binding g b s) := by
  unfold binding
  have h1 := em_exprM g b.value s
  cases he : exprM g b.value s with
  | mk a s1 =>
    rw [he] at h1
    cases a with
    | none => exact h1
    | some r =>
      simp only
      cases hl : s1.lookupValue b.name with
      | none => exact h1.addErr _ _ _ _
      | some value =>
        dsimp only
        by_cases hmut : (!value.mutable) = true
        · rw [if_pos hmut]
          exact h1.addErr _ _ _ _
        · rw [if_neg hmut]
          by_cases hty : value.ty ≠ r.ty
          · rw [if_pos hty]
            exact h1.addErr _ _ _ _
          · rw [if_neg hty]
            exact h1.tail (EStep.emit s1 _ rfl rfl rfl (fun v hv => ⟨b.name, Option.some.inj hv ▸ hl⟩) rfl rfl)

theorem esteps_callStmt (g : Globals) (c : CallS) (s : St) : ESteps s (callStmt g c s) := by
  unfold callStmt
  exact esteps_functionCall g c.name _ (em_argsM g c.args) s

theorem esteps_nestedReturn_pre (g : Globals) (e : Expr) (s : St) :
    ∃ s1, ESteps s s1 ∧ ((nestedReturn g e s = (s1, false)) ∨
      (∃ r, nestedReturn g e s = ((s1.push (.jumpFnReturn r)).setReturn, true))) := by
  unfold nestedReturn
  have h1 := em_exprM g e s
  cases he : exprM g e s with
  | mk a s1 =>
    rw [he] at h1
    cases a with
    | none => exact ⟨s1, h1, Or.inl rfl⟩
    | some r => exact ⟨s1, h1, Or.inr ⟨r, rfl⟩⟩

theorem esteps_forbidden (rc bc cc : Bool) (s : St) : ESteps s (forbidden rc bc cc s) :=
  (((ESteps.refl s).addErrIf rc _ _ _ _).addErrIf bc _ _ _ _).addErrIf cc _ _ _ _

theorem esteps_condExprM (g : Globals) : ∀ (lc : LogicCond) (s : St), ESteps s (condExprM g lc s).2
  | .mk c right, s => by
    unfold condExprM
    have h1 := em_exprM g c.left s
    cases hl : exprM g c.left s with
    | mk l s1 =>
      rw [hl] at h1
      dsimp only
      have h2 := em_exprM g c.right s1
      cases hr : exprM g c.right s1 with
      | mk r s2 =>
        rw [hr] at h2
        dsimp only
        have h12 : ESteps s s2 := h1.trans h2
        cases l with
        | none => exact h12.addErr _ _ _ _
        | some l =>
          cases r with
          | none => exact h12.addErr _ _ _ _
          | some r =>
            dsimp only
            refine .ite (h12.addErr _ _ _ _) (.ite (h12.addErr _ _ _ _) ?_)
            have h3 : ESteps s ((s2.incReg).push (.condExpr l r c.cond s2.incReg.curReg)) :=
              h12.write _ rfl rfl rfl rfl rfl
            cases right with
            | none => exact h3
            | some p =>
              obtain ⟨lg, rc⟩ := p
              dsimp only
              have h4 := esteps_condExprM g rc ((s2.incReg).push (.condExpr l r c.cond s2.incReg.curReg))
              generalize condExprM g rc ((s2.incReg).push (.condExpr l r c.cond s2.incReg.curReg)) = res at h4
              obtain ⟨rr, s3⟩ := res
              exact (h3.trans h4).write _ rfl rfl rfl rfl rfl

theorem ifCondCalc_split (g : Globals) (c : IfCond) (lb le ln : Name) (isElse : Bool) (s : St) :
    ∃ s1, ESteps s s1 ∧ (ifCondCalc g c lb le ln isElse s = s1 ∨
      ∃ i : Instr, ifCondCalc g c lb le ln isElse s = s1.push i ∧ i.targets = [lb, if isElse then le else ln] ∧
        i.writes = none ∧ i.declares = none ∧ i.setsLabel = none ∧ i.usesValue = none ∧ i.isRet = false) := by
  unfold ifCondCalc
  cases c with
  | single e =>
    simp only
    have h1 := em_exprM g e s
    cases he : exprM g e s with
    | mk a s1 =>
      rw [he] at h1
      cases a with
      | none => exact ⟨s1, h1, Or.inl rfl⟩
      | some r => exact ⟨s1, h1, Or.inr ⟨_, rfl, rfl, rfl, rfl, rfl, rfl, rfl⟩⟩
  | logic lc =>
    dsimp only
    have h1 := esteps_condExprM g lc s
    generalize condExprM g lc s = res at h1
    obtain ⟨reg, s1⟩ := res
    exact ⟨s1, h1, Or.inr ⟨_, rfl, rfl, rfl, rfl, rfl, rfl, rfl⟩⟩

theorem esteps_ifCondCalc (g : Globals) (c : IfCond) (lb le ln : Name) (isElse : Bool) (s : St) :
    BSteps s (ifCondCalc g c lb le ln isElse s) := by
  obtain ⟨s1, h1, h | ⟨i, h, _, hw, hd, hl, hu, hr⟩⟩ := ifCondCalc_split g c lb le ln isElse s
  · exact ⟨s1, h1, Or.inl h⟩
  · exact ⟨s1, h1, Or.inr ⟨i, h, hw, hd, hl, hu, hr⟩⟩

end SemVerif
