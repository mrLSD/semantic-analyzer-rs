import SemVerif.Analyzer
/-!
# Lemmas/Body — one statement of a nested body

`if_condition_body`, `if_condition_loop_body` and the loop of `loop_statement` are three copies of one
loop over three statement types with the same constructors.  `NStmt` is that common statement,
`nStmt g K st` what the analyzer does for it under the labels `K` the enclosing constructs hand down,
and `ifBody_cons` / `ifLoopBody_cons` / `loopBody_cons` say that each loop runs `nStmt` on its head.
A property of all three loops is then proved as one lemma about `nStmt`, which receives the claim about
the construct nested in the statement as a hypothesis (`NStmt.Sub`); `BodyInd` does the mutual recursion
over the nested syntax types once.  The function-level loop shares five of its seven statement kinds with
the nested bodies: `BodyStmt.split`, `bodyStmts_cons`.
-/
namespace SemVerif

inductive NStmt : Type
  | letB (b : LetB) | bind (b : Bind) | call (c : CallS) | ifS (i : IfStmt)
  | loop (l : List LoopStmt) | ret (e : Expr) | brk | cont

def IfBodyStmt.toN : IfBodyStmt → NStmt
  | .letB b => .letB b | .bind b => .bind b | .call c => .call c | .ifS i => .ifS i
  | .loop l => .loop l | .ret e => .ret e

def IfLoopStmt.toN : IfLoopStmt → NStmt
  | .letB b => .letB b | .bind b => .bind b | .call c => .call c | .ifS i => .ifS i
  | .loop l => .loop l | .ret e => .ret e | .brk => .brk | .cont => .cont

def LoopStmt.toN : LoopStmt → NStmt
  | .letB b => .letB b | .bind b => .bind b | .call c => .call c | .ifS i => .ifS i
  | .loop l => .loop l | .ret e => .ret e | .brk => .brk | .cont => .cont

/-- what a nested body passes to its statements: the end label for a nested `if` (none directly in a
loop body and at function level) and the labels of the enclosing loop -/
structure BodyK where
  lEnd : Option Name
  ll : Option (Name × Name)

/-- the "seen a return / break / continue" flags of a body loop -/
structure Flags where
  rc : Bool
  bc : Bool
  cc : Bool

def NStmt.Sub (Pif : IfStmt → Prop) (Ploop : List LoopStmt → Prop) : NStmt → Prop
  | .ifS i => Pif i
  | .loop l => Ploop l
  | _ => True

def nStmt (g : Globals) (K : BodyK) (st : NStmt) (f : Flags) (s : St) : St × Flags :=
  let s := forbidden f.rc f.bc f.cc s
  match st with
  | .letB b => (letBinding g b s, f)
  | .bind b => (binding g b s, f)
  | .call c => (callStmt g c s, f)
  | .ifS i => (ifCondition g i K.lEnd K.ll s, f)
  | .loop l => (loopWrap (loopBody g l) s, f)
  | .ret e => ((nestedReturn g e s).1, { f with rc := f.rc || (nestedReturn g e s).2 })
  | .brk => (s.push (.jumpTo (K.ll.getD default).2), { f with bc := true })
  | .cont => (s.push (.jumpTo (K.ll.getD default).1), { f with cc := true })

/-- the flags only matter for the diagnostics that precede the statement -/
theorem nStmt_forbidden (g : Globals) (K : BodyK) (st : NStmt) (f : Flags) (s : St) :
    (nStmt g K st f s).1 = (nStmt g K st ⟨false, false, false⟩ (forbidden f.rc f.bc f.cc s)).1 := by
  cases st <;> rfl

theorem ifBody_cons (g : Globals) (st : IfBodyStmt) (tl : List IfBodyStmt) (lEnd : Name)
    (ll : Option (Name × Name)) (rc : Bool) (s : St) :
    ifBody g (st :: tl) lEnd ll rc s =
      ifBody g tl lEnd ll (nStmt g ⟨some lEnd, ll⟩ st.toN ⟨rc, false, false⟩ s).2.rc
        (nStmt g ⟨some lEnd, ll⟩ st.toN ⟨rc, false, false⟩ s).1 := by
  cases st <;> rfl

theorem ifLoopBody_cons (g : Globals) (st : IfLoopStmt) (tl : List IfLoopStmt) (lEnd lb le : Name)
    (rc bc cc : Bool) (s : St) :
    ifLoopBody g (st :: tl) lEnd lb le rc bc cc s =
      ifLoopBody g tl lEnd lb le (nStmt g ⟨some lEnd, some (lb, le)⟩ st.toN ⟨rc, bc, cc⟩ s).2.rc
        (nStmt g ⟨some lEnd, some (lb, le)⟩ st.toN ⟨rc, bc, cc⟩ s).2.bc
        (nStmt g ⟨some lEnd, some (lb, le)⟩ st.toN ⟨rc, bc, cc⟩ s).2.cc
        (nStmt g ⟨some lEnd, some (lb, le)⟩ st.toN ⟨rc, bc, cc⟩ s).1 := by
  cases st <;> rfl

theorem loopBody_cons (g : Globals) (st : LoopStmt) (tl : List LoopStmt) (lb le : Name)
    (rc bc cc : Bool) (s : St) :
    loopBody g (st :: tl) lb le rc bc cc s =
      loopBody g tl lb le (nStmt g ⟨none, some (lb, le)⟩ st.toN ⟨rc, bc, cc⟩ s).2.rc
        (nStmt g ⟨none, some (lb, le)⟩ st.toN ⟨rc, bc, cc⟩ s).2.bc
        (nStmt g ⟨none, some (lb, le)⟩ st.toN ⟨rc, bc, cc⟩ s).2.cc
        (nStmt g ⟨none, some (lb, le)⟩ st.toN ⟨rc, bc, cc⟩ s).1 := by
  cases st <;> rfl

/-- a statement of a function body is a statement of a nested body (met outside every `if` and loop),
or gives the function's result -/
def BodyStmt.split : BodyStmt → NStmt ⊕ Expr
  | .letB b => .inl (.letB b)
  | .bind b => .inl (.bind b)
  | .call c => .inl (.call c)
  | .ifS i => .inl (.ifS i)
  | .loop l => .inl (.loop l)
  | .expr e | .ret e => .inr e

theorem bodyStmts_cons (g : Globals) (resTy : Ty) (st : BodyStmt) (tl : List BodyStmt) (rc : Bool) (s : St) :
    bodyStmts g resTy (st :: tl) rc s =
      match st.split with
      | .inl n => bodyStmts g resTy tl rc (nStmt g ⟨none, none⟩ n ⟨rc, false, false⟩ s).1
      | .inr e => bodyStmts g resTy tl (fnReturn g resTy e rc (forbidden rc false false s)).2
          (fnReturn g resTy e rc (forbidden rc false false s)).1 := by
  cases st <;> rfl

theorem BodyStmt.split_inl {st : BodyStmt} {n : NStmt} (h : st.split = .inl n) :
    (∀ e, n ≠ .ret e) ∧ n ≠ .brk ∧ n ≠ .cont := by
  cases st <;> cases h <;> exact ⟨nofun, nofun, nofun⟩

theorem forbidden_fn (rc : Bool) (s : St) :
    forbidden rc false false s = if rc then s.addErr .forbiddenCodeAfterReturnDeprecated wildcard 1 1 else s := by
  unfold forbidden; cases rc <;> rfl

/-- The cases of an induction over the five mutually nested syntax types of the control constructs.
A family of claims about `if_condition`, its bodies and the three body loops is proved by giving
these nine cases; the cons cases receive the claim about the construct nested in the head statement
ready-made (`NStmt.Sub`).  The structural recursion over the nested types is done once, below. -/
structure BodyInd (Pif : IfStmt → Prop) (Pbs : IfBodies → Prop) (Pib : List IfBodyStmt → Prop)
    (Pil : List IfLoopStmt → Prop) (Pl : List LoopStmt → Prop) : Prop where
  ifS : ∀ cond body els elif, Pbs body → (∀ eb, els = some eb → Pbs eb) → (∀ ei, elif = some ei → Pif ei) →
    Pif (.mk cond body els elif)
  ifb : ∀ l, Pib l → Pbs (.ifb l)
  loopb : ∀ l, Pil l → Pbs (.loopb l)
  ifNil : Pib []
  ifCons : ∀ st tl, st.toN.Sub Pif Pl → Pib tl → Pib (st :: tl)
  ifLoopNil : Pil []
  ifLoopCons : ∀ st tl, st.toN.Sub Pif Pl → Pil tl → Pil (st :: tl)
  loopNil : Pl []
  loopCons : ∀ st tl, st.toN.Sub Pif Pl → Pl tl → Pl (st :: tl)

namespace BodyInd

variable {Pif : IfStmt → Prop} {Pbs : IfBodies → Prop} {Pib : List IfBodyStmt → Prop}
  {Pil : List IfLoopStmt → Prop} {Pl : List LoopStmt → Prop}

mutual
theorem ifStmt (h : BodyInd Pif Pbs Pib Pil Pl) : ∀ i, Pif i
  | .mk cond body els elif => h.ifS cond body els elif (bodies h body)
      (match els with
        | some eb => fun _ e => Option.some.inj e ▸ bodies h eb
        | none => nofun)
      (match elif with
        | some ei => fun _ e => Option.some.inj e ▸ ifStmt h ei
        | none => nofun)
termination_by structural i => i
theorem bodies (h : BodyInd Pif Pbs Pib Pil Pl) : ∀ b, Pbs b
  | .ifb l => h.ifb l (ifBody h l)
  | .loopb l => h.loopb l (ifLoopBody h l)
termination_by structural b => b
theorem ifBody (h : BodyInd Pif Pbs Pib Pil Pl) : ∀ l, Pib l
  | [] => h.ifNil
  | st :: tl => h.ifCons st tl
      (match st with
        | .ifS i => ifStmt h i
        | .loop l => loopBody h l
        | .letB _ | .bind _ | .call _ | .ret _ => trivial)
      (ifBody h tl)
termination_by structural l => l
theorem ifLoopBody (h : BodyInd Pif Pbs Pib Pil Pl) : ∀ l, Pil l
  | [] => h.ifLoopNil
  | st :: tl => h.ifLoopCons st tl
      (match st with
        | .ifS i => ifStmt h i
        | .loop l => loopBody h l
        | .letB _ | .bind _ | .call _ | .ret _ | .brk | .cont => trivial)
      (ifLoopBody h tl)
termination_by structural l => l
theorem loopBody (h : BodyInd Pif Pbs Pib Pil Pl) : ∀ l, Pl l
  | [] => h.loopNil
  | st :: tl => h.loopCons st tl
      (match st with
        | .ifS i => ifStmt h i
        | .loop l => loopBody h l
        | .letB _ | .bind _ | .call _ | .ret _ | .brk | .cont => trivial)
      (loopBody h tl)
termination_by structural l => l
end

theorem sub (h : BodyInd Pif Pbs Pib Pil Pl) : ∀ st : NStmt, st.Sub Pif Pl
  | .ifS i => ifStmt h i
  | .loop l => loopBody h l
  | .letB _ | .bind _ | .call _ | .ret _ | .brk | .cont => trivial

end BodyInd

end SemVerif
