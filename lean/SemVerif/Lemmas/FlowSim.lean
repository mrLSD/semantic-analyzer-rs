import SemVerif.Lemmas.FlowLay
/-!
# Lemmas/FlowSim — laid-out code run as a jump program does what the structured flow does

Forward simulation: whenever the structured run of `flows` (any fuel) ends normally / by break / by
continue, the jump program reaches the corresponding position with the same remaining outcomes and
the same trace after some number of steps, whatever fuel is left then (`Reach`); when it returns or
runs out of outcomes, so does the jump program, with the same trace (`Halt`); when it runs out of
fuel, the trace it has produced so far is a prefix of a trace of the jump program.  Induction on the
fuel of the structured run, inside it on the layout derivation.

A position in the stack is kept as a cursor (`At`): where the jump program stands, what lies ahead of
it and how many effect instructions lie behind.  The cases of the induction move the cursor
(`At.next`, `At.skip`) and never compute a position.
-/
namespace SemVerif

section steps
variable (S : List Instr) {pc : Nat} {i : Instr}

theorem runJump_none (h : S[pc]? = none) (m : Nat) (os : List Bool) (tr : List Nat) :
    runJump S (m + 1) pc os tr = (.fellOff, tr) := by
  conv => lhs; whnf
  rw [h]

theorem runJump_some (h : S[pc]? = some i) (m : Nat) (os : List Bool) (tr : List Nat) :
    runJump S (m + 1) pc os tr =
      if i.isRet then (.returned, tr ++ [effectIndex S pc]) else
        match i.targets with
        | [] => runJump S m (pc + 1) os (if i.isEffect then tr ++ [effectIndex S pc] else tr)
        | [l] =>
          match findLabel S l with
          | some t => runJump S m t os tr
          | none => (.badLabel, tr)
        | a :: b :: _ =>
          match os with
          | [] => (.noOutcome, tr)
          | o :: os =>
            match findLabel S (if o then a else b) with
            | some t => runJump S m t os tr
            | none => (.badLabel, tr) := by
  -- `unfold runJump` would generate the equation lemmas of `runJump`
  conv => lhs; whnf
  rw [h]
  cases i <;> rfl

theorem jstep_straight (h : S[pc]? = some i) (hs : i.straight = true)
    (os : List Bool) (tr : List Nat) (m : Nat) :
    runJump S (m + 1) pc os tr =
      runJump S m (pc + 1) os (if i.isEffect then tr ++ [effectIndex S pc] else tr) := by
  simp only [Instr.straight, Bool.and_eq_true, List.isEmpty_iff, Bool.not_eq_true'] at hs
  rw [runJump_some S h, hs.1.1, hs.2]
  rfl

theorem jstep_label {l : Name} (h : S[pc]? = some (.setLabel l))
    (os : List Bool) (tr : List Nat) (m : Nat) : runJump S (m + 1) pc os tr = runJump S m (pc + 1) os tr :=
  runJump_some S h m os tr

theorem jstep_jump {t : Nat} {l : Name} (h : S[pc]? = some (.jumpTo l)) (ht : findLabel S l = some t)
    (os : List Bool) (tr : List Nat) (m : Nat) : runJump S (m + 1) pc os tr = runJump S m t os tr := by
  refine (runJump_some S h m os tr).trans ?_
  show (match findLabel S l with | some t => _ | none => _) = _
  rw [ht]

theorem jstep_ret (h : S[pc]? = some i) (hr : i.isRet = true)
    (os : List Bool) (tr : List Nat) (m : Nat) :
    runJump S (m + 1) pc os tr = (.returned, tr ++ [effectIndex S pc]) := by
  rw [runJump_some S h, if_pos hr]

theorem jstep_branch_nil {a b : Name} (h : S[pc]? = some i) (hbr : i.targets = [a, b]) (hnr : i.isRet = false)
    (tr : List Nat) (m : Nat) : runJump S (m + 1) pc [] tr = (.noOutcome, tr) := by
  rw [runJump_some S h, hbr, hnr]
  rfl

theorem jstep_branch {t : Nat} {a b : Name} (h : S[pc]? = some i) (hbr : i.targets = [a, b]) (hnr : i.isRet = false)
    (o : Bool) (ht : findLabel S (if o then a else b) = some t)
    (os : List Bool) (tr : List Nat) (m : Nat) : runJump S (m + 1) pc (o :: os) tr = runJump S m t os tr := by
  rw [runJump_some S h, hbr, hnr]
  show (match findLabel S (if o then a else b) with | some t => _ | none => _) = _
  rw [ht]

theorem findLabel_unique {pre post : List Instr} {l : Name} (hS : S = pre ++ .setLabel l :: post)
    (hn : (setLabels S).Nodup) : findLabel S l = some pre.length := by
  subst hS
  have hpre : pre.findIdx? (fun i => i.setsLabel == some l) = none := by
    rw [List.findIdx?_eq_none_iff]
    intro i hi
    -- `i` would set `l` a second time
    unfold setLabels at hn
    rw [List.filterMap_append, List.nodup_append] at hn
    rw [beq_eq_false_iff_ne]
    exact fun h => hn.2.2 l (List.mem_filterMap.mpr ⟨i, hi, h⟩) l (List.mem_cons_self ..) rfl
  unfold findLabel
  rw [List.findIdx?_append, hpre, List.findIdx?_cons]
  simp [Instr.setsLabel]

end steps

section fuel
variable (S : List Instr)

/-- one step ends the run or leads on to another configuration, the same for every fuel, and the
trace only grows -/
theorem jstep_total (pc : Nat) (os : List Bool) (tr : List Nat) :
    (∃ r : JEnd × List Nat, tr <+: r.2 ∧ ∀ a, runJump S (a + 1) pc os tr = r) ∨
    (∃ pc' os' tr', tr <+: tr' ∧ ∀ a, runJump S (a + 1) pc os tr = runJump S a pc' os' tr') := by
  cases hg : S[pc]? with
  | none => exact .inl ⟨(.fellOff, tr), List.prefix_refl _, fun a => runJump_none S hg a os tr⟩
  | some i =>
    cases hr : i.isRet with
    | true => exact .inl ⟨_, List.prefix_append _ _, jstep_ret S hg hr os tr⟩
    | false =>
      have step := fun a => runJump_some S hg a os tr
      simp only [hr, Bool.false_eq_true, if_false] at step
      -- a jump ends the run if its label is not set
      have jump : ∀ (l : Name) (os' : List Bool) (r : Nat → JEnd × List Nat),
          (∀ a, r a = match findLabel S l with | some t => runJump S a t os' tr | none => (.badLabel, tr)) →
          (∃ q : JEnd × List Nat, tr <+: q.2 ∧ ∀ a, r a = q) ∨
          (∃ pc' os' tr', tr <+: tr' ∧ ∀ a, r a = runJump S a pc' os' tr') := by
        intro l os' r h
        cases hl : findLabel S l with
        | none => exact .inl ⟨(.badLabel, tr), List.prefix_refl _, fun a => by rw [h, hl]⟩
        | some t => exact .inr ⟨t, os', tr, List.prefix_refl _, fun a => by rw [h, hl]⟩
      cases ht : i.targets with
      | nil =>
        refine .inr ⟨_, _, _, ?_, fun a => by rw [step, ht]⟩
        split
        · exact List.prefix_append _ _
        · exact List.prefix_refl _
      | cons a rest =>
        cases rest with
        | nil => exact jump a os _ fun m => by rw [step, ht]
        | cons b _ =>
          cases os with
          | nil => exact .inl ⟨(.noOutcome, tr), List.prefix_refl _, fun m => by rw [step, ht]⟩
          | cons o os => exact jump (if o then a else b) os _ fun m => by rw [step, ht]

theorem jtrace_ext (a : Nat) : ∀ (pc : Nat) (os : List Bool) (tr : List Nat), tr <+: (runJump S a pc os tr).2 := by
  induction a with
  | zero => exact fun _ _ tr => List.prefix_refl tr
  | succ a ih =>
    intro pc os tr
    rcases jstep_total S pc os tr with ⟨r, hr, h⟩ | ⟨pc', os', tr', ht, h⟩
    · rw [h]; exact hr
    · rw [h]; exact ht.trans (ih pc' os' tr')

end fuel

theorem jfuel_le (S : List Instr) (pc : Nat) (os : List Bool) (tr : List Nat) (a : Nat) : ∀ d,
    ((runJump S a pc os tr).1 ≠ .noFuel → runJump S (a + d) pc os tr = runJump S a pc os tr) ∧
    (runJump S a pc os tr).2 <+: (runJump S (a + d) pc os tr).2 := by
  intro d
  induction a generalizing pc os tr with
  | zero => exact ⟨fun h => (h rfl).elim, by rw [Nat.zero_add]; exact jtrace_ext S d pc os tr⟩
  | succ a ih =>
    rw [Nat.add_right_comm]
    rcases jstep_total S pc os tr with ⟨r, _, h⟩ | ⟨pc', os', tr', _, h⟩
    · rw [h, h]; exact ⟨fun _ => rfl, List.prefix_refl _⟩
    · rw [h, h]; exact ih pc' os' tr'

theorem jtraces_comparable (S : List Instr) (pc : Nat) (os : List Bool) (tr : List Nat) (a b : Nat) :
    (runJump S a pc os tr).2 <+: (runJump S b pc os tr).2 ∨ (runJump S b pc os tr).2 <+: (runJump S a pc os tr).2 := by
  rcases Nat.le_total a b with h | h
  · obtain ⟨d, rfl⟩ := Nat.exists_eq_add_of_le h
    exact Or.inl (jfuel_le S pc os tr a d).2
  · obtain ⟨d, rfl⟩ := Nat.exists_eq_add_of_le h
    exact Or.inr (jfuel_le S pc os tr b d).2

section runs
variable {S : List Instr} {pc pc' pc'' n : Nat} {os os' os'' : List Bool} {tr tr' tr'' : List Nat}

/-- some number of steps leads from the first configuration to the second, whatever fuel is left -/
def Reach (S : List Instr) (pc : Nat) (os : List Bool) (tr : List Nat) (pc' : Nat) (os' : List Bool)
    (tr' : List Nat) : Prop :=
  ∃ k, ∀ m, runJump S (k + m) pc os tr = runJump S m pc' os' tr'

/-- some number of steps ends the run with `r`, whatever fuel is left -/
def Halt (S : List Instr) (pc : Nat) (os : List Bool) (tr : List Nat) (r : JEnd × List Nat) : Prop :=
  ∃ k, ∀ m, runJump S (k + m) pc os tr = r

theorem Reach.refl (S : List Instr) (pc : Nat) (os : List Bool) (tr : List Nat) : Reach S pc os tr pc os tr :=
  ⟨0, fun m => by rw [Nat.zero_add]⟩

theorem Reach.step (h : ∀ m, runJump S (m + 1) pc os tr = runJump S m pc' os' tr') :
    Reach S pc os tr pc' os' tr' :=
  ⟨1, fun m => by rw [Nat.add_comm]; exact h m⟩

theorem Halt.step {r : JEnd × List Nat} (h : ∀ m, runJump S (m + 1) pc os tr = r) : Halt S pc os tr r :=
  ⟨1, fun m => by rw [Nat.add_comm]; exact h m⟩

theorem Reach.trans (h1 : Reach S pc os tr pc' os' tr') (h2 : Reach S pc' os' tr' pc'' os'' tr'') :
    Reach S pc os tr pc'' os'' tr'' := by
  obtain ⟨k1, h1⟩ := h1
  obtain ⟨k2, h2⟩ := h2
  exact ⟨k1 + k2, fun m => by rw [Nat.add_assoc, h1, h2]⟩

theorem Reach.halt {r : JEnd × List Nat} (h1 : Reach S pc os tr pc' os' tr') (h2 : Halt S pc' os' tr' r) :
    Halt S pc os tr r := by
  obtain ⟨k1, h1⟩ := h1
  obtain ⟨k2, h2⟩ := h2
  exact ⟨k1 + k2, fun m => by rw [Nat.add_assoc, h1, h2]⟩

/-- the jump program stands at `pc` in front of `rest`, with `n` effect instructions behind it -/
def At (S : List Instr) (pc n : Nat) (rest : List Instr) : Prop :=
  ∃ pre, S = pre ++ rest ∧ pre.length = pc ∧ effCount pre = n

variable {i : Instr} {rest seg : List Instr}

theorem At.get (h : At S pc n (i :: rest)) : S[pc]? = some i := by
  obtain ⟨pre, rfl, rfl, _⟩ := h
  rw [List.getElem?_append_right (Nat.le_refl _), Nat.sub_self]
  rfl

theorem At.effectIndex (h : At S pc n rest) : effectIndex S pc = n := by
  obtain ⟨pre, rfl, rfl, rfl⟩ := h
  exact congrArg effCount (List.take_left ..)

theorem At.pos (h : At S pc n rest) : pc = S.length - rest.length := by
  obtain ⟨pre, rfl, rfl, _⟩ := h
  rw [List.length_append, Nat.add_sub_cancel]

theorem At.skip (h : At S pc n (seg ++ rest)) : At S (pc + seg.length) (n + effCount seg) rest := by
  obtain ⟨pre, rfl, rfl, rfl⟩ := h
  exact ⟨pre ++ seg, (List.append_assoc ..).symm, List.length_append, effCount_append ..⟩

theorem At.next (h : At S pc n (i :: rest)) (he : i.isEffect = false) : At S (pc + 1) n rest := by
  have := At.skip (seg := [i]) h
  rwa [effCount_cons, he] at this

theorem At.next_eff (h : At S pc n (i :: rest)) (he : i.isEffect = true) : At S (pc + 1) (n + 1) rest := by
  have := At.skip (seg := [i]) h
  rwa [effCount_cons, he] at this

theorem At.label {l : Name} (h : At S pc n (.setLabel l :: rest)) (hn : (setLabels S).Nodup) :
    findLabel S l = some pc := by
  obtain ⟨pre, hS, rfl, _⟩ := h
  exact findLabel_unique S hS hn

end runs

structure Pos (S : List Instr) (K : LoopK) : Prop where
  begin_ : ∀ lb le b, K = some (lb, le, b) → ∃ pb, findLabel S lb = some pb
  end_ : ∀ lb le, K = some (lb, le, true) → ∃ pe, findLabel S le = some pe

def exitPos (S : List Instr) (e : Exit) (fallPos p : Nat) : Prop :=
  match e with
  | .fall => p = fallPos
  | .jump l => findLabel S l = some p

/-- what the jump program does from `(pc, os, tr)` when the structured run ends as the `Run`: after a
normal end it is at `ex`, after `break` and `continue` at the labels of the loop context `K` -/
inductive Out (S : List Instr) (K : LoopK) (pc : Nat) (os : List Bool) (tr : List Nat) : Run → Nat → Prop
  | normal {os' : List Bool} {tr' : List Nat} {ex : Nat} (h : Reach S pc os tr ex os' tr') :
      Out S K pc os tr ⟨.normal, os', tr'⟩ ex
  | brk {os' : List Bool} {tr' : List Nat} {ex : Nat} {lb le : Name} {pe : Nat} (hK : K = some (lb, le, true))
      (hl : findLabel S le = some pe) (h : Reach S pc os tr pe os' tr') : Out S K pc os tr ⟨.brk, os', tr'⟩ ex
  | cont {os' : List Bool} {tr' : List Nat} {ex : Nat} {lb le : Name} {b : Bool} {pb : Nat}
      (hK : K = some (lb, le, b)) (hl : findLabel S lb = some pb) (h : Reach S pc os tr pb os' tr') :
      Out S K pc os tr ⟨.cont, os', tr'⟩ ex
  | returned {os' : List Bool} {tr' : List Nat} {ex : Nat} (h : Halt S pc os tr (.returned, tr')) :
      Out S K pc os tr ⟨.returned, os', tr'⟩ ex
  | noOutcome {os' : List Bool} {tr' : List Nat} {ex : Nat} (h : Halt S pc os tr (.noOutcome, tr')) :
      Out S K pc os tr ⟨.noOutcome, os', tr'⟩ ex
  | noFuel {os' : List Bool} {tr' : List Nat} {ex : Nat} (a : Nat) (h : tr' <+: (runJump S a pc os tr).2) :
      Out S K pc os tr ⟨.noFuel, os', tr'⟩ ex

section out
variable {S : List Instr} {K : LoopK} {pc pc' ex ex' : Nat} {os os' : List Bool} {tr tr' : List Nat} {r : Run}

theorem Out.pre (h : Out S K pc' os' tr' r ex) (hJ : Reach S pc os tr pc' os' tr') : Out S K pc os tr r ex := by
  cases h with
  | normal h => exact .normal (hJ.trans h)
  | brk hK hl h => exact .brk hK hl (hJ.trans h)
  | cont hK hl h => exact .cont hK hl (hJ.trans h)
  | returned h => exact .returned (hJ.halt h)
  | noOutcome h => exact .noOutcome (hJ.halt h)
  | noFuel a h =>
    obtain ⟨k, hk⟩ := hJ
    exact .noFuel (k + a) (by rw [hk]; exact h)

theorem Out.post (h : Out S K pc os tr r ex) (hJ : ∀ os' tr', Reach S ex os' tr' ex' os' tr') :
    Out S K pc os tr r ex' := by
  cases h with
  | normal h => exact .normal (h.trans (hJ _ _))
  | brk hK hl h => exact .brk hK hl h
  | cont hK hl h => exact .cont hK hl h
  | returned h => exact .returned h
  | noOutcome h => exact .noOutcome h
  | noFuel a h => exact .noFuel a h

theorem out_noFuel : Out S K pc os tr ⟨.noFuel, os, tr⟩ ex := .noFuel 0 (List.prefix_refl tr)

end out

theorem runList_zero (fl : List Flow) (os : List Bool) (tr : List Nat) : runList 0 fl os tr = ⟨.noFuel, os, tr⟩ :=
  rfl

theorem runList_nil (f : Nat) (os : List Bool) (tr : List Nat) : runList (f + 1) [] os tr = ⟨.normal, os, tr⟩ :=
  rfl

theorem runList_cons (f : Nat) (x : Flow) (rest : List Flow) (os : List Bool) (tr : List Nat) :
    runList (f + 1) (x :: rest) os tr =
      (match (runOne f x os tr).ctl with
       | .normal => runList f rest (runOne f x os tr).outcomes (runOne f x os tr).trace
       | _ => runOne f x os tr) :=
  rfl

theorem runOne_zero (x : Flow) (os : List Bool) (tr : List Nat) : runOne 0 x os tr = ⟨.noFuel, os, tr⟩ :=
  rfl

theorem runOne_ev (f n : Nat) (os : List Bool) (tr : List Nat) : runOne (f + 1) (.ev n) os tr = ⟨.normal, os, tr ++ [n]⟩ :=
  rfl

theorem runOne_ret (f n : Nat) (os : List Bool) (tr : List Nat) : runOne (f + 1) (.ret n) os tr = ⟨.returned, os, tr ++ [n]⟩ :=
  rfl

theorem runOne_brk (f : Nat) (os : List Bool) (tr : List Nat) : runOne (f + 1) .brk os tr = ⟨.brk, os, tr⟩ :=
  rfl

theorem runOne_cont (f : Nat) (os : List Bool) (tr : List Nat) : runOne (f + 1) .cont os tr = ⟨.cont, os, tr⟩ :=
  rfl

theorem runOne_ite_nil (f : Nat) (t e : List Flow) (tr : List Nat) : runOne (f + 1) (.ite t e) [] tr = ⟨.noOutcome, [], tr⟩ :=
  rfl

theorem runOne_ite_true (f : Nat) (t e : List Flow) (os : List Bool) (tr : List Nat) :
    runOne (f + 1) (.ite t e) (true :: os) tr = runList f t os tr :=
  rfl

theorem runOne_ite_false (f : Nat) (t e : List Flow) (os : List Bool) (tr : List Nat) :
    runOne (f + 1) (.ite t e) (false :: os) tr = runList f e os tr :=
  rfl

theorem runOne_loop (f : Nat) (body : List Flow) (os : List Bool) (tr : List Nat) :
    runOne (f + 1) (.loop body) os tr =
      (match (runList f body os tr).ctl with
       | .normal | .cont => runOne f (.loop body) (runList f body os tr).outcomes (runList f body os tr).trace
       | .brk => ⟨.normal, (runList f body os tr).outcomes, (runList f body os tr).trace⟩
       | _ => runList f body os tr) :=
  rfl

theorem endsRet_not_normal {fl : List Flow} (hend : endsRet fl = true) :
    ∀ (f : Nat) (os : List Bool) (tr : List Nat), (runList f fl os tr).ctl ≠ .normal := by
  induction fl with
  | nil => cases hend
  | cons x rest ih =>
    intro f os tr
    cases f with
    | zero => exact nofun
    | succ f =>
      rw [runList_cons]
      split
      next hc =>
        cases rest with
        | nil =>
          -- x is the return
          cases x <;> cases hend
          cases f <;> cases hc
        | cons y ys => exact ih (by cases x <;> exact hend) f _ _
      next hc => exact hc

section out
variable {S : List Instr} {K : LoopK} {pc mid ex : Nat} {os : List Bool} {tr : List Nat}

theorem out_nil (f : Nat) (os : List Bool) (tr : List Nat) : Out S K ex os tr (runList f [] os tr) ex := by
  cases f with
  | zero => rw [runList_zero]; exact out_noFuel
  | succ f => rw [runList_nil]; exact .normal (.refl ..)

theorem Out.seq {r1 r2 : Run} (h1 : Out S K pc os tr r1 mid)
    (h2 : r1.ctl = .normal → Out S K mid r1.outcomes r1.trace r2 ex) :
    Out S K pc os tr (match r1.ctl with | .normal => r2 | _ => r1) ex := by
  cases h1 with
  | normal h => exact (h2 rfl).pre h
  | brk hK hl h => exact .brk hK hl h
  | cont hK hl h => exact .cont hK hl h
  | returned h => exact .returned h
  | noOutcome h => exact .noOutcome h
  | noFuel a h => exact .noFuel a h

theorem Out.cons {fuel : Nat} {x : Flow} {rest : List Flow}
    (hx : ∀ f, f < fuel → ∀ os tr, Out S K pc os tr (runOne f x os tr) mid)
    (hrest : ∀ f, f < fuel → ∀ os tr, Out S K mid os tr (runList f rest os tr) ex) (os : List Bool) (tr : List Nat) :
    Out S K pc os tr (runList fuel (x :: rest) os tr) ex := by
  cases fuel with
  | zero => rw [runList_zero]; exact out_noFuel
  | succ f =>
    rw [runList_cons]
    exact (hx f (Nat.lt_succ_self f) os tr).seq fun _ => hrest f (Nat.lt_succ_self f) _ _

theorem out_stop {fuel : Nat} {x : Flow} {rest : List Flow} {r : Run} (hr : r.ctl ≠ .normal)
    (hx : ∀ f, runOne (f + 1) x os tr = r) (h : Out S K pc os tr r ex) :
    Out S K pc os tr (runList fuel (x :: rest) os tr) ex := by
  match fuel with
  | 0 => rw [runList_zero]; exact out_noFuel
  | 1 => rw [runList_cons, runOne_zero]; exact out_noFuel
  | f + 2 => rw [runList_cons, hx]; exact h.seq fun hn => absurd hn hr

theorem out_ite {fuel : Nat} {br : Instr} {lT lF : Name} {pT pF : Nat} {tb eb : List Flow}
    (hg : S[pc]? = some br) (hbr : br.targets = [lT, lF]) (hnr : br.isRet = false)
    (hlT : findLabel S lT = some pT) (hlF : findLabel S lF = some pF)
    (hT : ∀ f, f < fuel → ∀ os tr, Out S K pT os tr (runList f tb os tr) ex)
    (hF : ∀ f, f < fuel → ∀ os tr, Out S K pF os tr (runList f eb os tr) ex) :
    ∀ f, f < fuel → ∀ os tr, Out S K pc os tr (runOne f (.ite tb eb) os tr) ex := by
  intro f hf os tr
  cases f with
  | zero => rw [runOne_zero]; exact out_noFuel
  | succ f =>
    have hf := Nat.lt_of_succ_lt hf
    cases os with
    | nil => rw [runOne_ite_nil]; exact .noOutcome (.step (jstep_branch_nil S hg hbr hnr tr))
    | cons o os =>
      cases o with
      | true => rw [runOne_ite_true]; exact (hT f hf os tr).pre (.step (jstep_branch S hg hbr hnr true hlT os tr))
      | false => rw [runOne_ite_false]; exact (hF f hf os tr).pre (.step (jstep_branch S hg hbr hnr false hlF os tr))

end out

/-- the simulation at one fuel: laid-out code inside `S`, run from its first instruction.  Where the
code falls through to is told by what follows it (`post`), so a piece of code and the rest after it
have the same exit. -/
def SimAt (S : List Instr) (fuel : Nat) : Prop :=
  ∀ (K : LoopK) (n : Nat) (fl : List Flow) (code : List Instr) (e : Exit), Lay K n fl code e →
    ∀ (pc : Nat) (post : List Instr) (ex : Nat), At S pc n (code ++ post) → Pos S K →
      exitPos S e (S.length - post.length) ex →
      ∀ (os : List Bool) (tr : List Nat), Out S K pc os tr (runList fuel fl os tr) ex

section items
variable {S : List Instr} {fuel : Nat} {K : LoopK} {pc n : Nat} {post : List Instr}

theorem sim_side (ih : ∀ f, f < fuel → SimAt S f) {p ex : Nat} {l lEnd : Name} {fl : List Flow} {c : List Instr}
    (hL : At S p n (.setLabel l :: (c ++ post))) (hc : Lay K n fl c (.jump lEnd)) (hpos : Pos S K)
    (hlE : findLabel S lEnd = some ex) : ∀ f, f < fuel → ∀ os tr, Out S K p os tr (runList f fl os tr) ex :=
  fun f hf os tr =>
    (ih f hf _ _ _ _ _ hc _ _ _ (hL.next rfl) hpos hlE os tr).pre (.step (jstep_label S hL.get os tr))

/-- a `loop` item: `JumpTo lb`, `SetLabel lb`, the body, and after it either the jump back and
`SetLabel le` or, when the body ends in a return, nothing.  Each turn re-enters at the begin label
with less fuel. -/
theorem sim_loop (hn : (setLabels S).Nodup) (ih : ∀ f, f < fuel → SimAt S f)
    {lb le : Name} {b : Bool} {body : List Flow} {bc tail : List Instr}
    (hat : At S pc n (.jumpTo lb :: .setLabel lb :: (bc ++ (tail ++ post))))
    (hbody : Lay (some (lb, le, b)) n body bc .fall)
    (htail : tail = [.jumpTo lb, .setLabel le] ∨ (tail = [] ∧ endsRet body = true ∧ b = false)) :
    ∀ f, f < fuel → ∀ os tr,
      Out S K pc os tr (runOne f (.loop body) os tr) (pc + 1 + 1 + bc.length + tail.length) := by
  have hB := hat.next rfl
  have hlb := hB.label hn
  have hC := hB.next rfl
  have hT := hC.skip
  have posB : Pos S (some (lb, le, b)) := by
    refine ⟨fun _ _ _ h => ⟨_, by cases h; exact hlb⟩, fun _ _ h => ?_⟩
    cases h
    rcases htail with rfl | ⟨_, _, hb⟩
    · exact ⟨_, (hT.next rfl).label hn⟩
    · cases hb
  -- every run of the item, from the begin label
  have turn : ∀ f, f < fuel → ∀ os tr,
      Out S K (pc + 1) os tr (runOne f (.loop body) os tr) (pc + 1 + 1 + bc.length + tail.length) := by
    intro f
    induction f with
    | zero => intro _ os tr; rw [runOne_zero]; exact out_noFuel
    | succ f ihf =>
      intro hf os tr
      have hf := Nat.lt_of_succ_lt hf
      have again := ihf hf
      rw [runOne_loop]
      have hb := (ih f hf _ _ _ _ _ hbody _ _ _ hC posB hT.pos os tr).pre
        (.step (jstep_label S hB.get os tr))
      have hnn := fun her => endsRet_not_normal (fl := body) her f os tr
      generalize runList f body os tr = r at hb hnn
      cases hb with
      | normal h =>
        -- the body has reached the tail
        rcases htail with rfl | ⟨_, her, _⟩
        · exact (again _ _).pre (h.trans (.step (jstep_jump S hT.get hlb _ _)))
        · exact absurd rfl (hnn her)
      | cont hK hl h =>
        cases hK
        cases hlb.symm.trans hl
        exact (again _ _).pre h
      | brk hK hl h =>
        cases hK
        rcases htail with rfl | ⟨_, _, hb⟩
        · have hE := hT.next rfl
          cases (hE.label hn).symm.trans hl
          exact .normal (h.trans (.step (jstep_label S hE.get _ _)))
        · cases hb
      | returned h => exact .returned h
      | noOutcome h => exact .noOutcome h
      | noFuel a h => exact .noFuel a h
  exact fun f hf os tr => (turn f hf os tr).pre (.step (jstep_jump S hat.get hlb os tr))

end items

theorem sim_at (S : List Instr) (hn : (setLabels S).Nodup) : ∀ fuel, SimAt S fuel := by
  intro fuel
  induction fuel using Nat.strongRecOn with
  | _ fuel ih =>
  intro K n fl code e h
  induction h with
  | nil K n =>
    intro pc post ex hat hpos hex os tr
    obtain rfl : ex = pc := hex.trans hat.pos.symm
    exact out_nil fuel os tr
  | @skip K n fl c e i hs he _ ih' =>
    intro pc post ex hat hpos hex os tr
    refine (ih' (pc + 1) post ex (hat.next he) hpos hex os tr).pre (.step fun m => ?_)
    rw [jstep_straight S hat.get hs, he]; rfl
  | @label K n fl c e l _ ih' =>
    intro pc post ex hat hpos hex os tr
    exact (ih' (pc + 1) post ex (hat.next rfl) hpos hex os tr).pre (.step (jstep_label S hat.get os tr))
  | @eff K n fl c e i hs he h' _ =>
    intro pc post ex hat hpos hex
    refine Out.cons (fun f _ os tr => ?_) (fun f hf => ih f hf _ _ _ _ _ h' _ _ _ (hat.next_eff he) hpos hex)
    cases f with
    | zero => rw [runOne_zero]; exact out_noFuel
    | succ f =>
      rw [runOne_ev]
      refine .normal (.step fun m => ?_)
      rw [jstep_straight S hat.get hs, he, hat.effectIndex]; rfl
  | ret K n fl' i c e hr =>
    intro pc post ex hat hpos hex os tr
    refine out_stop (by simp) (runOne_ret · n os tr) (.returned (.step fun m => ?_))
    rw [jstep_ret S hat.get hr, hat.effectIndex]
  | brk n fl' lb le c e =>
    intro pc post ex hat hpos hex os tr
    obtain ⟨pe, hpe⟩ := hpos.end_ lb le rfl
    exact out_stop (by simp) (runOne_brk · os tr) (.brk rfl hpe (.step (jstep_jump S hat.get hpe os tr)))
  | cont n fl' lb le b c e =>
    intro pc post ex hat hpos hex os tr
    obtain ⟨pb, hpb⟩ := hpos.begin_ lb le b rfl
    exact out_stop (by simp) (runOne_cont · os tr) (.cont rfl hpb (.step (jstep_jump S hat.get hpb os tr)))
  | jmp K n l c =>
    intro pc post ex hat hpos hex os tr
    exact (out_nil fuel os tr).pre (.step (jstep_jump S hat.get hex os tr))
  | @dead K n fl c l d _ ih' =>
    intro pc post ex hat hpos hex
    rw [List.append_assoc] at hat
    exact ih' pc (d ++ post) ex hat hpos hex
  | @loop K n body rest bc c tail e lb le b hbody htail hrest _ _ =>
    intro pc post ex hat hpos hex
    simp only [List.cons_append, List.append_assoc] at hat
    have hR := ((hat.next rfl).next rfl).skip.skip
    have h0 : effCount tail = 0 := by
      rcases htail with rfl | ⟨rfl, _, _⟩ <;> rfl
    rw [h0] at hR
    exact Out.cons (sim_loop hn ih hat hbody htail) (fun f hf => ih f hf _ _ _ _ _ hrest _ _ _ hR hpos hex)
  | @itePass K n tb tc br lBegin lEnd hbr hnr hne htb _ =>
    intro pc post ex hat hpos hex
    simp only [List.cons_append] at hat
    have hB := hat.next hne
    exact Out.cons
      (out_ite hat.get hbr hnr (hB.label hn) hex (sim_side ih hB htb hpos hex) (fun f _ => out_nil f))
      (fun f _ => out_nil f)
  | @iteOwn K n tb rest tc c e br lBegin lEnd hbr hnr hne htb hrest _ _ =>
    intro pc post ex hat hpos hex
    simp only [List.cons_append, List.append_assoc] at hat
    have hB := hat.next hne
    have hE := (hB.next rfl).skip
    have hlE := hE.label hn
    exact Out.cons
      (fun f hf os tr =>
        (out_ite hat.get hbr hnr (hB.label hn) hlE (sim_side ih hB htb hpos hlE) (fun f _ => out_nil f) f hf os tr).post
          fun os tr => .step (jstep_label S hE.get os tr))
      (fun f hf => ih f hf _ _ _ _ _ hrest _ _ _ (hE.next rfl) hpos hex)
  | @iteElsePass K n tb eb tc ec br lBegin lElse lEnd hbr hnr hne htb heb _ _ =>
    intro pc post ex hat hpos hex
    simp only [List.cons_append, List.append_assoc] at hat
    have hB := hat.next hne
    have hL := (hB.next rfl).skip
    exact Out.cons
      (out_ite hat.get hbr hnr (hB.label hn) (hL.label hn) (sim_side ih hB htb hpos hex) (sim_side ih hL heb hpos hex))
      (fun f _ => out_nil f)
  | @iteElseOwn K n tb eb rest tc ec c e br lBegin lElse lEnd hbr hnr hne htb heb hrest _ _ _ =>
    intro pc post ex hat hpos hex
    simp only [List.cons_append, List.append_assoc] at hat
    have hB := hat.next hne
    have hL := (hB.next rfl).skip
    have hE := (hL.next rfl).skip
    have hlE := hE.label hn
    exact Out.cons
      (fun f hf os tr =>
        (out_ite hat.get hbr hnr (hB.label hn) (hL.label hn) (sim_side ih hB htb hpos hlE) (sim_side ih hL heb hpos hlE)
          f hf os tr).post fun os tr => .step (jstep_label S hE.get os tr))
      (fun f hf => ih f hf _ _ _ _ _ hrest _ _ _ (hE.next rfl) hpos hex)

theorem sim (S : List Instr) (hn : (setLabels S).Nodup) (fuel : Nat) (K : LoopK) (n : Nat) (fl : List Flow)
    (code : List Instr) (e : Exit) (h : Lay K n fl code e) (pre post : List Instr) (ex : Nat)
    (hS : S = pre ++ code ++ post) (hne : effCount pre = n) (hpos : Pos S K)
    (hex : exitPos S e (pre.length + code.length) ex) (os : List Bool) (tr : List Nat) :
    Out S K pre.length os tr (runList fuel fl os tr) ex := by
  have hp : pre.length + code.length = S.length - post.length := by
    rw [hS, List.length_append, List.length_append, Nat.add_sub_cancel]
  exact sim_at S hn fuel K n fl code e h pre.length post ex ⟨pre, by rw [hS, List.append_assoc], rfl, hne⟩ hpos
    (hp ▸ hex) os tr

theorem isPrefixOrEq_iff {a b : List Nat} : isPrefixOrEq a b = true ↔ a <+: b ∨ b <+: a := by
  simp [isPrefixOrEq, List.isPrefixOf_iff_prefix]

theorem jend_or_prefix {S : List Instr} {pc : Nat} {os : List Bool} {tr : List Nat} {je : JEnd} {T : List Nat}
    (hk : Halt S pc os tr (je, T)) (fuel : Nat) :
    runJump S fuel pc os tr = (je, T) ∨ ((runJump S fuel pc os tr).1 = .noFuel ∧ (runJump S fuel pc os tr).2 <+: T) := by
  obtain ⟨k, hk⟩ := hk
  rcases Nat.le_total k fuel with h | h
  · obtain ⟨d, rfl⟩ := Nat.exists_eq_add_of_le h
    exact Or.inl (hk d)
  · obtain ⟨d, rfl⟩ := Nat.exists_eq_add_of_le h
    obtain ⟨h1, h2⟩ := jfuel_le S pc os tr fuel d
    rw [show runJump S (fuel + d) pc os tr = (je, T) from hk 0] at h1 h2
    by_cases hnf : (runJump S fuel pc os tr).1 = .noFuel
    · exact .inr ⟨hnf, h2⟩
    · exact .inl (h1 hnf).symm

/-- **agreement** — for a stack that is the layout of a flow ending in a return, with pairwise
distinct set labels and a well-formed jump program: the structured run and the jump program agree,
for every outcome sequence and every fuel -/
theorem lay_agree (S : List Instr) (flows : List Flow) (hl : Lay none 0 flows S .fall) (hn : (setLabels S).Nodup)
    (hend : endsRet flows = true)
    (hwf : ∀ fuel os, (runJump S fuel 0 os []).1 ≠ .badLabel ∧ (runJump S fuel 0 os []).1 ≠ .fellOff)
    (outcomes : List Bool) (fuel : Nat) : agree flows S outcomes fuel = none := by
  have hsim := sim S hn fuel none 0 flows S .fall hl [] [] S.length (by simp) rfl
    (Pos.mk (fun _ _ _ h => by cases h) (fun _ _ h => by cases h)) (by simp [exitPos]) outcomes []
  have hnn := endsRet_not_normal hend fuel outcomes []
  obtain ⟨hb, hf⟩ := hwf fuel outcomes
  unfold agree
  dsimp only
  simp only [List.length_nil] at hsim
  generalize runList fuel flows outcomes [] = s at hsim hnn
  generalize hj : runJump S fuel 0 outcomes [] = j at hb hf
  obtain ⟨je, jt⟩ := j
  dsimp only at hb hf ⊢
  rw [beq_eq_false_iff_ne.mpr hb, beq_eq_false_iff_ne.mpr hf, if_neg Bool.false_ne_true, if_neg Bool.false_ne_true]
  cases hsim with
  | normal => exact absurd rfl hnn
  | brk hK => cases hK
  | cont hK => cases hK
  | returned h =>
    rcases jend_or_prefix h fuel with h | ⟨h1, h2⟩
    · rw [hj] at h; cases h; simp
    · rw [hj] at h1 h2; cases h1
      simp [isPrefixOrEq_iff.mpr (.inr h2)]
  | noOutcome h =>
    rcases jend_or_prefix h fuel with h | ⟨h1, h2⟩
    · rw [hj] at h; cases h; simp
    · rw [hj] at h1 h2; cases h1
      simp [isPrefixOrEq_iff.mpr (.inr h2)]
  | @noFuel _ st _ a ha =>
    have hcmp : isPrefixOrEq st jt = true := by
      rw [isPrefixOrEq_iff]
      rcases jtraces_comparable S 0 outcomes [] a fuel with h | h
      · rw [hj] at h; exact .inl (ha.trans h)
      · rw [hj] at h; exact List.prefix_or_prefix_of_prefix ha h
    cases je <;> simp [hcmp] at hb hf ⊢

end SemVerif
