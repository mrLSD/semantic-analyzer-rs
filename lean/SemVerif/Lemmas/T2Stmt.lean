import SemVerif.Lemmas.T2Expr
import SemVerif.Lemmas.Names
/-!
# Lemmas/T2Stmt — family T2, statement level

`DRel g R s ss`: the abstract reading of the root stack so far is the statement list of the source
denotation so far; the visible declarations correspond; every declared internal name is registered.
Every statement-level analysis function that reports no error maps `DRel`-related states to
`DRel`-related states (`StD`).
-/
namespace SemVerif

structure DRel (g : Globals) (R : Ty) (s : St) (ss : SpecSt) : Prop where
  scope : DScope s ss
  out : s.abs.out = ss.out
  next : s.abs.decls.length = ss.next
  reg : ∀ n ∈ s.abs.decls, n ∈ s.root.innerNames
  rd : RdInv s
  /-- the typed scan of the root stack so far passes (C04), `R` the function's result type -/
  tok : TOK g R s
  /-- value tables of the live blocks and of their finished children against the direct
  declarations, under the names the denotation has declared / closed (C18) -/
  vinv : FramesOk s.dts [] ss.dscope ss.kids
  vreg : ∀ t ∈ s.dts, ∀ x ∈ t.decls, x.innerName ∈ s.root.innerNames
  /-- the registers written so far are not above the counter (so the next one is fresh: C04) -/
  wle : WLe s

def StD (g : Globals) (R : Ty) (f : St → St) (F : SpecSt → SpecSt) : Prop :=
  ∀ s ss, DRel g R s ss → (f s).errors = s.errors → DRel g R (f s) (F ss)

theorem not_fail_of_eq {s s' : St} {vs : List Viol} (h : s'.errors = s.errors) : ¬ Fail s s' vs := by
  rintro ⟨e, rest, v, he, _, _⟩
  rw [h] at he
  cases List.self_eq_append_right.mp he

/-- that the evaluation succeeds, and with which type, comes from the verdict simulation (`sim_exprM`:
no new error excludes `Fail`); the denotation from `den_exprM` -/
theorem expr_cases {g : Globals} {rg : RGlobals} (hg : GlobRel g rg) (hn : GNames g) (e : Expr) {s : St} {ss : SpecSt}
    (hs : DScope s ss) {a : Option ExprResult} {s1 : St} (hm : exprM g e s = (a, s1)) (he : s1.errors = s.errors) :
    ∃ r, a = some r ∧ (checkExpr rg ss.tscope e).2 = some r.ty ∧
      Trans g s s1 (specExpr false ss e).1 ∧ ResD s1 r (specExpr false ss e).2 := by
  have h1 := sim_exprM hg ss.tscope e s hs.sc
  rw [hm] at h1
  cases hc : (checkExpr rg ss.tscope e).2 with
  | none =>
    rw [hc] at h1
    exact absurd h1 (not_fail_of_eq he)
  | some t =>
    rw [hc] at h1
    obtain ⟨_, r, hr, hrty, _, _⟩ := h1
    cases (hr : a = some r)
    obtain ⟨t1, r1⟩ := den_exprM hn ss e s r s1 hs hm he
    exact ⟨r, rfl, by rw [hrty], t1, r1⟩

theorem expr_run {g : Globals} {rg : RGlobals} (hg : GlobRel g rg) (hn : GNames g) (e : Expr) {s : St} {ss : SpecSt}
    (hs : DScope s ss) (he : (exprM g e s).2.errors = s.errors) :
    ∃ r s1, exprM g e s = (some r, s1) ∧ s1.errors = s.errors ∧ (checkExpr rg ss.tscope e).2 = some r.ty ∧
      Trans g s s1 (specExpr false ss e).1 ∧ ResD s1 r (specExpr false ss e).2 := by
  obtain ⟨r, ha, h⟩ := expr_cases (a := (exprM g e s).1) hg hn e hs rfl he
  exact ⟨r, _, Prod.ext ha rfl, he, h⟩

theorem exprM_ext (g : Globals) (e : Expr) (s : St) : ∃ Δ, (exprM g e s).2.errors = s.errors ++ Δ :=
  (em_exprM g e s).errors_ext

theorem eq_of_ext_len {a b : List Err} (h : ∃ Δ, b = a ++ Δ) (hl : b.length ≤ a.length) : b = a := by
  obtain ⟨Δ, h⟩ := h
  rw [h, List.length_append] at hl
  have : Δ = [] := List.eq_nil_of_length_eq_zero (Nat.le_zero.mp (Nat.le_of_add_le_add_left (hl : _ ≤ a.length + 0)))
  rw [h, this, List.append_nil]

theorem root_insertValue {α : Type} (π : Block → α) (hπ : ∀ (b : Block) vals, π { b with values := vals } = π b)
    (n : Name) (v : Value) (s : St) : π (s.insertValue n v).root = π s.root := by
  unfold St.insertValue St.mapCur
  cases s.inner with
  | nil => exact hπ _ _
  | cons _ _ => rfl

theorem errors_insertValue (n : Name) (v : Value) (s : St) : (s.insertValue n v).errors = s.errors := by
  unfold St.insertValue St.mapCur
  cases s.inner <;> rfl

theorem abs_insertValue (n : Name) (v : Value) (s : St) : (s.insertValue n v).abs = s.abs :=
  abs_of_ctx (root_insertValue (·.context) (fun _ _ => rfl) n v s)

theorem abs_registerInner (n : Name) (s : St) : (s.registerInner n).abs = s.abs := abs_of_ctx rfl

theorem tenv_insertValue (n : Name) (v : Value) (s : St) : (s.insertValue n v).tenv = s.tenv :=
  tenv_of_ctx (root_insertValue (·.context) (fun _ _ => rfl) n v s)

theorem tenv_registerInner (n : Name) (s : St) : (s.registerInner n).tenv = s.tenv := tenv_of_ctx rfl

theorem innerUsed_insertValue (n : Name) (v : Value) (s : St) (x : Name) :
    (s.insertValue n v).innerUsed x = s.innerUsed x := by
  unfold St.innerUsed St.insertValue
  rw [frames_mapCur]
  cases s.frames <;> rfl

theorem innerUsed_registerInner (n : Name) (s : St) (x : Name) :
    (s.registerInner n).innerUsed x = (s.innerUsed x || x == n) := by
  unfold St.innerUsed St.registerInner
  rw [frames_mapFrames, Bool.eq_iff_iff]
  simp only [List.any_map, Function.comp_def, List.any_eq_true, List.contains_eq_mem, decide_eq_true_eq, Bool.or_eq_true,
    beq_iff_eq, mem_setInsert]
  constructor
  · rintro ⟨b, hb, h | h⟩
    · exact Or.inr h
    · exact Or.inl ⟨b, hb, h⟩
  · rintro (⟨b, hb, h⟩ | h)
    · exact ⟨b, hb, Or.inr h⟩
    · exact ⟨s.root, by simp [St.frames], Or.inl h⟩

theorem curReg_insertRegister (n m : Name) (v : Value) (s : St) : ((s.insertValue n v).registerInner m).curReg = s.curReg := by
  unfold St.curReg St.cur St.registerInner St.mapFrames St.insertValue St.mapCur
  cases s.inner <;> rfl

theorem rd_push_nowrite {s : St} (h : RdInv s) (i : Instr) (hw : i.writes = none)
    (hrd : ∀ q ∈ i.reads, q ≤ s.curReg ∧ s.abs.bound q = true) : RdInv (s.push i) :=
  rd_push h i hrd (fun w hw' => by rw [hw] at hw'; cases hw') (fun w hw' => by rw [hw] at hw'; cases hw')

theorem rd_insertRegister {s : St} (h : RdInv s) (n m : Name) (v : Value) : RdInv ((s.insertValue n v).registerInner m) := by
  have hroot : ((s.insertValue n v).registerInner m).root.reg = s.root.reg :=
    root_insertValue (·.reg) (fun _ _ => rfl) n v s
  refine rd_same h ?_ (root_insertValue (·.context) (fun _ _ => rfl) n v s) hroot
  intro b hb
  rw [hroot]
  unfold St.registerInner St.mapFrames St.insertValue St.mapCur at hb
  cases hi : s.inner with
  | nil => rw [hi] at hb; cases hb
  | cons b0 rest =>
    rw [hi] at hb
    obtain ⟨b', hb', rfl⟩ := List.mem_map.mp hb
    rcases List.mem_cons.mp hb' with rfl | hb'
    · exact h.sync b0 (by rw [hi]; exact List.mem_cons_self)
    · exact h.sync b' (by rw [hi]; exact List.mem_cons_of_mem _ hb')

theorem pjD_append {decls : List Name} {v : Value} {d : Nat} (x : Name) (h : pjD decls v = some d) :
    pjD (decls ++ [x]) v = some d := by
  unfold pjD at *
  rw [List.findIdx?_append, h]
  rfl

theorem dvals_append {decls : List Name} {vs : List (List (Name × Value))} {ds : List (List (Name × Nat))}
    (x : Name) (h : DVals decls vs ds) : DVals (decls ++ [x]) vs ds := by
  induction h with
  | nil => exact DVals.nil
  | @cons vals fr rest ds' hfr _ ih =>
    refine DVals.cons ?_ ih
    intro n
    have := hfr n
    cases hg : assocGet n vals with
    | none => rw [hg] at this; exact this
    | some v =>
      rw [hg] at this
      cases hr : rlookup n fr with
      | none => rw [hr] at this; cases this
      | some d =>
        rw [hr] at this
        exact congrArg some (pjD_append x (Option.some.inj this))

theorem pjD_new (decls : List Name) (v : Value) (h : v.innerName ∉ decls) :
    pjD (decls ++ [v.innerName]) v = some decls.length := by
  unfold pjD
  rw [List.findIdx?_append]
  have : decls.findIdx? (· == v.innerName) = none :=
    List.findIdx?_eq_none_iff.mpr fun x hx => beq_false_of_ne fun e => h (e ▸ hx)
  rw [this, List.findIdx?_cons, beq_self_eq_true]
  exact congrArg some (Nat.zero_add _)

theorem dvals_declare {decls : List Name} {x : List (Name × Value)} {rest : List (List (Name × Value))}
    {fr : List (Name × Nat)} {outer : List (List (Name × Nat))}
    (h : DVals decls (x :: rest) (fr :: outer)) (n : Name) (v : Value) (d : Nat) (hv : pjD decls v = some d) :
    DVals decls (assocInsert n v x :: rest) (((n, d) :: fr) :: outer) := by
  cases h with
  | cons hfr hrest =>
    refine DVals.cons ?_ hrest
    intro k
    show _ = (if k = n then some d else rlookup k fr).map some
    by_cases hk : k = n
    · rw [if_pos hk, hk, assocGet_insert_self]; exact congrArg some hv
    · rw [if_neg hk, assocGet_insert_ne _ _ _ _ hk]; exact hfr k

theorem declOk_self (ds : List Value) (rs ws : List (Nat × Ty)) (v : Value) :
    ({ regs := rs, decls := v :: ds, written := ws } : TyEnv).declOk v = true := by
  unfold TyEnv.declOk; simp

theorem declOk_cons {ds : List Value} {rs ws : List (Nat × Ty)} {v d : Value} (hne : d.innerName ≠ v.innerName)
    (h : ({ regs := rs, decls := ds, written := ws } : TyEnv).declOk v = true) :
    ({ regs := rs, decls := d :: ds, written := ws } : TyEnv).declOk v = true := by
  unfold TyEnv.declOk at h ⊢
  have : (d.innerName == v.innerName) = false := by simp [hne]
  simp only [List.find?_cons, this]
  exact h

theorem declOk_mem {e : TyEnv} {v : Value} (h : e.declOk v = true) : v ∈ e.decls := by
  unfold TyEnv.declOk at h
  have h' : e.decls.find? (fun d => d.innerName == v.innerName) = some v := by simpa using h
  exact List.mem_of_find?_eq_some h'

theorem drel_trans {g : Globals} {R : Ty} {s s1 : St} {ss : SpecSt} {evs : List DStmt} (hr : DRel g R s ss) (t1 : Trans g s s1 evs) :
    DRel g R s1 (ss.emits evs) :=
  have hs := hr.scope.of_trans t1
  ⟨⟨hs.sc, hs.dv, hs.dk, hs.dn⟩, by rw [t1.out, hr.out]; rfl, by rw [t1.decls]; exact hr.next,
   fun n hn => by rw [t1.rootNames]; exact hr.reg n (by rw [← t1.decls]; exact hn), t1.rd hr.rd, t1.tok R hr.rd hr.wle hr.tok,
   by rw [t1.dts]; exact hr.vinv, by rw [t1.dts, t1.rootNames]; exact hr.vreg, t1.wle hr.rd hr.wle⟩

theorem drel_push_emit {g : Globals} {R : Ty} {s : St} {ss : SpecSt} (hr : DRel g R s ss) (i : Instr) (d : DStmt)
    (ho : (abstractStep s.abs i).out = s.abs.out ++ [d])
    (hw : i.writes = none) (hnd : i.declares = none) (hrd : ∀ q ∈ i.reads, q ≤ s.curReg ∧ s.abs.bound q = true)
    (hty : ∀ b ∈ tyStepBad (cOkOf g) (fOkOf g) R s.tenv i, b.known i = true) :
    DRel g R (s.push i) (ss.emit d) :=
  have hd : (s.push i).abs.decls = s.abs.decls := by rw [abs_push]; exact abstractStep_decls _ _ hnd
  have htd : (s.push i).tenv.decls = s.tenv.decls := by rw [tenv_push]; exact tenv_step_decls _ _ hnd
  ⟨⟨by unfold ScopeRel; rw [vals_push]; exact hr.scope.sc, by rw [hd, vals_push]; exact hr.scope.dv,
    by rw [vals_push]; intro fr hfr n v hv; unfold TyEnv.declOk; rw [htd]; exact hr.scope.dk fr hfr n v hv,
    by rw [htd]; exact hr.scope.dn⟩,
   by rw [abs_push, ho, hr.out]; rfl, by rw [hd]; exact hr.next,
   fun n hn => hr.reg n (by rw [hd] at hn; exact hn), rd_push_nowrite hr.rd i hw hrd, tok_push i hr.tok hty,
   by rw [dts_push_plain i s hnd]; exact hr.vinv,
   by rw [dts_push_plain i s hnd]; exact hr.vreg,
   by
     intro p hp
     rw [tenv_push] at hp
     rcases written_step _ _ p hp with hp | hp
     · exact hr.wle p hp
     · rw [hw] at hp; cases hp⟩

theorem DRel.declare {g : Globals} {R : Ty} {s : St} {ss : SpecSt} (hr : DRel g R s ss) (n : Name) (v : Value) (i : Instr) (d : DStmt)
    (hfresh : v.innerName ∉ s.root.innerNames)
    (habs : abstractStep s.abs i = ({ s.abs with decls := s.abs.decls ++ [v.innerName] } : AbsSt).emit d)
    (hw : i.writes = none) (hrd : ∀ q ∈ i.reads, q ≤ s.curReg ∧ s.abs.bound q = true)
    (hdecl : i.declares = some v)
    (hstep : tyStepEnv s.tenv i = { s.tenv with decls := v :: s.tenv.decls })
    (hty : ∀ b ∈ tyStepBad (cOkOf g) (fOkOf g) R s.tenv i, b.known i = true) :
    DRel g R (((s.insertValue n v).registerInner v.innerName).push i) ((ss.declare n v.ty v.mutable).1.emit d) := by
  have hnot : v.innerName ∉ s.abs.decls := fun hm => hfresh (hr.reg _ hm)
  have habs' : (((s.insertValue n v).registerInner v.innerName).push i).abs =
      ({ s.abs with decls := s.abs.decls ++ [v.innerName] } : AbsSt).emit d := by
    rw [abs_push, abs_registerInner, abs_insertValue, habs]
  have htenv : (((s.insertValue n v).registerInner v.innerName).push i).tenv =
      { s.tenv with decls := v :: s.tenv.decls } := by
    rw [tenv_push, tenv_registerInner, tenv_insertValue, hstep]
  have hroot : (((s.insertValue n v).registerInner v.innerName).push i).root.innerNames =
      setInsert v.innerName s.root.innerNames :=
    congrArg (setInsert v.innerName) (root_insertValue (·.innerNames) (fun _ _ => rfl) n v s)
  have hold : ∀ w, s.tenv.declOk w = true → w.innerName ≠ v.innerName := fun w hw' hev =>
    hfresh (hev ▸ hr.scope.dn w (declOk_mem hw'))
  have hdts : (((s.insertValue n v).registerInner v.innerName).push i).dts =
      (mapHead (DT.setValues (assocInsert n v)) s.dts).map (DT.addDecl v) := by
    rw [dts_push_decl _ v _ hdecl, dts_registerInner, dts_insertValue]
  obtain ⟨x, rest, hx, hins⟩ := vals_insertValue n v s
  have hvals : (((s.insertValue n v).registerInner v.innerName).push i).vals = assocInsert n v x :: rest := by
    rw [vals_push, vals_registerInner, hins]
  obtain ⟨t, ts, hd1⟩ : ∃ t ts, s.dts = t :: ts := by
    unfold St.dts
    cases hf : s.frames with
    | nil => exact absurd hf (frames_ne_nil s)
    | cons b bs => exact ⟨_, _, rfl⟩
  refine ⟨⟨?sc, ?dv, ?dk, ?dn⟩, ?out, ?next, ?reg, ?rd, ?tok, ?vinv, ?vreg, ?wle⟩
  case sc =>
    unfold ScopeRel
    rw [hvals]
    exact valsRel_declare (hx ▸ hr.scope.sc) n v
  case dv =>
    rw [habs', hvals]
    have hdv' : DVals (s.abs.decls ++ [v.innerName]) (x :: rest) ss.dscope := dvals_append v.innerName (hx ▸ hr.scope.dv)
    show DVals (s.abs.decls ++ [v.innerName]) _ (ss.declare n v.ty v.mutable).1.dscope
    unfold SpecSt.declare
    cases hds : ss.dscope with
    | nil => rw [hds] at hdv'; cases hdv'
    | cons fr outer =>
      rw [hds] at hdv'
      rw [← hr.next]
      exact dvals_declare hdv' n v _ (pjD_new _ v hnot)
  case dk =>
    rw [htenv, hvals]
    intro fr hfr k w hw'
    have hcase : w = v ∨ s.tenv.declOk w = true := by
      rcases List.mem_cons.mp hfr with rfl | hfr
      · by_cases hk : k = n
        · subst hk; rw [assocGet_insert_self] at hw'; exact Or.inl (Option.some.inj hw').symm
        · rw [assocGet_insert_ne _ _ _ _ hk] at hw'
          exact Or.inr (hr.scope.dk x (hx ▸ List.mem_cons_self) k w hw')
      · exact Or.inr (hr.scope.dk fr (hx ▸ List.mem_cons_of_mem _ hfr) k w hw')
    rcases hcase with rfl | hok
    · exact declOk_self _ _ _ _
    · exact declOk_cons (fun e => hold w hok e.symm) hok
  case dn =>
    rw [htenv, hroot]
    intro d' hd
    rw [mem_setInsert]
    rcases List.mem_cons.mp hd with rfl | hd
    · exact Or.inl rfl
    · exact Or.inr (hr.scope.dn d' hd)
  case out =>
    rw [habs']
    show s.abs.out ++ [d] = ss.out ++ [d]
    rw [hr.out]
  case next =>
    rw [habs']
    show (s.abs.decls ++ [v.innerName]).length = ss.next + 1
    rw [List.length_append, hr.next]; rfl
  case reg =>
    intro m hm
    rw [habs'] at hm
    rw [hroot, mem_setInsert]
    rcases List.mem_append.mp hm with hm | hm
    · exact Or.inr (hr.reg m hm)
    · exact Or.inl (List.mem_singleton.mp hm)
  case rd =>
    refine rd_push_nowrite (rd_insertRegister hr.rd _ _ _) _ hw fun q hq => ?_
    rw [curReg_insertRegister, abs_registerInner, abs_insertValue]
    exact hrd q hq
  case tok =>
    refine tok_push _ (tok_of_ctx (root_insertValue (·.context) (fun _ _ => rfl) n v s) hr.tok) fun bb hb => ?_
    rw [tenv_registerInner, tenv_insertValue] at hb
    exact hty bb hb
  case vinv =>
    rw [hdts]
    have hfresh' : ∀ t' ∈ s.dts, v ∉ t'.decls := fun t' ht' hx => hfresh (hr.vreg t' ht' _ hx)
    have hvi := hr.vinv
    rw [hd1] at hvi hfresh' ⊢
    obtain ⟨fr, frs, k, ks, hds, hks, hf, hin, hrest⟩ := hvi.inv_cons
    have := framesOk_declare (FramesOk.cons hf hin hrest) n v ss.next hfresh'
    unfold SpecSt.declare SpecSt.emit
    dsimp only [mapHead, List.map_cons]
    rw [hds, hks]
    exact this
  case vreg =>
    rw [hdts, hroot, hd1]
    intro t' ht' y hy
    obtain ⟨t0, ht0, rfl⟩ := List.mem_map.mp ht'
    rw [DT.addDecl_decls] at hy
    rw [mem_setInsert]
    rcases List.mem_append.mp hy with hy | hy
    · right
      rcases List.mem_cons.mp ht0 with rfl | ht0
      · rw [DT.setValues_decls] at hy
        exact hr.vreg t (hd1 ▸ List.mem_cons_self) y hy
      · exact hr.vreg t0 (hd1 ▸ List.mem_cons_of_mem _ ht0) y hy
    · exact Or.inl (congrArg Value.innerName (List.mem_singleton.mp hy))
  case wle =>
    -- the declaring instruction writes no register
    intro p hp
    rw [htenv] at hp
    have hrr : (((s.insertValue n v).registerInner v.innerName).push i).root.reg = s.root.reg :=
      root_insertValue (·.reg) (fun _ _ => rfl) n v s
    rw [hrr]
    exact hr.wle p hp

theorem den_let {g : Globals} {R : Ty} {rg : RGlobals} (hg : GlobRel g rg) (hn : GNames g) (b : LetB) :
    StD g R (letBinding g b) (specLet false rg b) := by
  intro s ss hr he
  unfold letBinding at he ⊢
  have x1 := exprM_ext g b.value s
  cases hm : exprM g b.value s with
  | mk a s1 =>
    rw [hm] at he x1
    have hrun := expr_cases hg hn b.value hr.scope hm
    cases a with
    | none => obtain ⟨_, h, _⟩ := hrun he; cases h
    | some r =>
      dsimp only at he ⊢
      by_cases hbad : letTypeBad b.ty r.ty = true
      · rw [if_pos hbad] at he
        exact absurd he (addErr_ne x1 _ _ _ _)
      · rw [if_neg hbad] at he ⊢
        have he1 : s1.errors = s.errors := (errors_insertValue ..).symm.trans he
        obtain ⟨_, h, hty, t1, r1, hh⟩ := hrun he1
        cases h
        have h1 := drel_trans hr t1
        generalize hin : letInnerName s1 b.name = inner at he ⊢
        have hfresh : s1.innerUsed inner = false := by
          rw [← hin]; unfold letInnerName
          cases s1.lookupValue b.name <;> exact St.probeInner_fresh s1 _
        have := h1.declare b.name ⟨inner, r.ty, b.mutable, false, false⟩ (.letBinding ⟨inner, r.ty, b.mutable, false, false⟩ r)
          (.letD s1.abs.decls.length b.mutable (s1.abs.res r)) (innerUsed_false_root hfresh)
          (abstractStep_let ..) rfl (fun q hq => hh.regs q hq) rfl rfl
          (fun bb hb => by
            change bb ∈ badIf _ _ ++ badIf (_ == _) _ at hb
            rw [hh.operandOk, beq_self_eq_true] at hb
            cases hb)
        rw [h1.next, r1] at this
        show DRel g R _ (((ss.emits (specExpr false ss b.value).1).declare b.name
          (((checkExpr rg ss.tscope b.value).2).getD (.prim .none)) b.mutable).1.emit _)
        rw [hty]
        exact this

theorem den_bind {g : Globals} {R : Ty} {rg : RGlobals} (hg : GlobRel g rg) (hn : GNames g) (b : Bind) :
    StD g R (binding g b) (specBind false b) := by
  intro s ss hr he
  unfold binding at he ⊢
  have x1 := exprM_ext g b.value s
  cases hm : exprM g b.value s with
  | mk a s1 =>
    rw [hm] at he x1
    have hrun := expr_cases hg hn b.value hr.scope hm
    cases a with
    | none => obtain ⟨_, h, _⟩ := hrun he; cases h
    | some r =>
      dsimp only at he ⊢
      cases hv : s1.lookupValue b.name with
      | none => rw [hv] at he; exact absurd he (addErr_ne x1 _ _ _ _)
      | some value =>
        rw [hv] at he
        dsimp only at he ⊢
        by_cases hmu : (!value.mutable) = true
        · rw [if_pos hmu] at he; exact absurd he (addErr_ne x1 _ _ _ _)
        · rw [if_neg hmu] at he ⊢
          by_cases hty : value.ty ≠ r.ty
          · rw [if_pos hty] at he; exact absurd he (addErr_ne x1 _ _ _ _)
          · rw [if_neg hty] at he ⊢
            obtain ⟨_, h, _, t1, r1, hh⟩ := hrun he
            cases h
            have h1 := drel_trans hr t1
            have hlk : dlookup b.name ss.dscope = _ := h1.scope.lookup_some hv
            refine drel_push_emit h1 _ _ ?_ rfl rfl hh.regs fun bb hb => ?_
            · show s1.abs.out ++ [.assign (s1.abs.declIdx value.innerName) (s1.abs.res r)] = _
              rw [hlk, r1]
              rfl
            · have hmu' : value.mutable = true := by
                cases hvm : value.mutable with
                | true => rfl
                | false => rw [hvm] at hmu; exact absurd rfl hmu
              change bb ∈ badIf _ _ ++ badIf (_ == _) _ ++ badIf _ _ ++ badIf _ _ at hb
              rw [hh.operandOk, beq_iff_eq.mpr (Classical.not_not.mp hty), hmu', dscope_declOk h1.scope hv] at hb
              cases hb

theorem den_callS {g : Globals} {R : Ty} {rg : RGlobals} (hg : GlobRel g rg) (hn : GNames g) (c : CallS) :
    StD g R (callStmt g c) (specCallS false c) := by
  intro s ss hr he
  unfold callStmt at he ⊢
  show DRel g R _ (ss.emits ((specArgs false ss c.args).1 ++ [.callS (.call c.name (specArgs false ss c.args).2)]))
  rw [argsM_eq] at he ⊢
  rw [specArgs_eq g false ss c.args]
  -- success, from the verdict simulation
  have h1 := sim_functionCall hg c.name (c.args.map fun e => (exprM g e, checkExpr rg ss.tscope e)) (by
    intro x hx
    obtain ⟨e, _, rfl⟩ := List.mem_map.mp hx
    exact ⟨sim_exprM hg ss.tscope e, em_exprM g e⟩) s hr.scope.sc
  simp only [List.map_map, Function.comp_def] at h1
  cases hc : (checkCall rg c.name (c.args.map (checkExpr rg ss.tscope))).2 with
  | none =>
    rw [hc] at h1
    exact absurd h1 (not_fail_of_eq he)
  | some ty =>
    rw [hc] at h1
    obtain ⟨_, hsome, _, _⟩ := h1
    have hden := den_functionCall hn c.name (c.args.map fun e => (exprM g e, specExpr false ss e)) (by
      intro x hx
      obtain ⟨e, _, rfl⟩ := List.mem_map.mp hx
      exact ⟨den_exprM hn ss e, em_exprM g e⟩) s ty (functionCall g c.name (c.args.map (exprM g)) s).2 hr.scope
      (by
        simp only [List.map_map, Function.comp_def]
        exact Prod.ext hsome rfl) he
    exact drel_trans hr hden.1

theorem condExprM_ext (g : Globals) (lc : LogicCond) (s : St) : ∃ Δ, (condExprM g lc s).2.errors = s.errors ++ Δ :=
  (esteps_condExprM g lc s).errors_ext

def CondDen (g : Globals) (ss : SpecSt) (lc : LogicCond) : Prop :=
  ∀ (s : St) (q : Nat) (s' : St), condExprM g lc s = (q, s') → DScope s ss → s'.errors = s.errors →
    Trans g s s' (specLogic false ss lc).1 ∧ s'.abs.reg q = (specLogic false ss lc).2 ∧ q ≤ s'.curReg ∧
      s'.abs.bound q = true

theorem condDen_mk {g : Globals} {rg : RGlobals} (hg : GlobRel g rg) (hn : GNames g) (ss : SpecSt) (c : CmpCond)
    (right : Option (Logic × LogicCond)) (ih : ∀ lg rc, right = some (lg, rc) → CondDen g ss rc) :
    CondDen g ss (.mk c right) := by
  intro s q s' hq hs he
  unfold condExprM at hq
  have x1 := exprM_ext g c.left s
  cases hl : exprM g c.left s with
  | mk l s1 =>
    rw [hl] at hq x1
    dsimp only at hq
    have x2 := exprM_ext g c.right s1
    cases hrr : exprM g c.right s1 with
    | mk r s2 =>
      rw [hrr] at hq x2
      dsimp only at hq
      have x12 := errors_ext_trans x1 x2
      -- the comparison instruction, once both operands are evaluated without a new error
      have cmp : s2.errors = s.errors → ∀ lv rv, l = some lv → r = some rv → lv.ty = rv.ty → lv.ty.isPrim = true →
          Trans g s (s2.incReg.push (.condExpr lv rv c.cond s2.incReg.curReg))
            ((specExpr false ss c.left).1 ++ (specExpr false ss c.right).1) ∧
          ResD (s2.incReg.push (.condExpr lv rv c.cond s2.incReg.curReg)) ⟨.prim .bool, .reg s2.incReg.curReg⟩
            (.cmp c.cond (specExpr false ss c.left).2 (specExpr false ss c.right).2) := by
        intro h2 lv rv hl' hr' hty hpr
        subst hl' hr'
        obtain ⟨e1, e2⟩ := noerr_split x1 x2 h2
        obtain ⟨_, h, _, t1, d1, h1⟩ := expr_cases hg hn c.left (rg := rg) hs hl e1
        cases h
        obtain ⟨_, h, _, t2, d2, h2⟩ := expr_cases hg hn c.right (rg := rg) (hs.of_trans t1) hrr e2
        cases h
        obtain ⟨t3, r3⟩ := den_incPush (g := g) (i := .condExpr lv rv c.cond s2.incReg.curReg) rfl
          (List.append_nil _).symm (fun q hq => (List.mem_append.mp hq).elim ((h1.of_trans t2).regs q) (h2.regs q))
          (fun R hwk b hb => by
            change b ∈ badIf _ _ ++ badIf _ _ ++ badIf (_ == _) _ ++ badIf _ _ ++ badIf _ _ at hb
            rw [(h1.of_trans t2).operandOk, h2.operandOk, beq_iff_eq.mpr hty, hpr, hwk] at hb
            cases hb)
          (AbsSt.bind_reg_self ..) (reg_cons_eq ..)
        rw [t2.stable _ h1, d1, d2] at r3
        exact ⟨(t1.trans t2).then t3, r3⟩
      cases l with
      | none => cases r <;> (cases hq; exact absurd he (addErr_ne x12 _ _ _ _))
      | some lv =>
        cases r with
        | none => cases hq; exact absurd he (addErr_ne x12 _ _ _ _)
        | some rv =>
          dsimp only at hq
          by_cases hne : lv.ty ≠ rv.ty
          · rw [if_pos hne] at hq; cases hq; exact absurd he (addErr_ne x12 _ _ _ _)
          · rw [if_neg hne] at hq
            by_cases hpr : (!lv.ty.isPrim) = true
            · rw [if_pos hpr] at hq; cases hq; exact absurd he (addErr_ne x12 _ _ _ _)
            · rw [if_neg hpr] at hq
              simp only [curReg_push] at hq
              have hpr' : lv.ty.isPrim = true := by
                cases hp : lv.ty.isPrim with
                | true => rfl
                | false => rw [hp] at hpr; exact absurd rfl hpr
              cases right with
              | none =>
                cases hq
                obtain ⟨t3, r3⟩ := cmp he lv rv rfl rfl (Classical.not_not.mp hne) hpr'
                exact ⟨t3, r3.1, r3.2.le, r3.2.bnd⟩
              | some p =>
                obtain ⟨lg, rc⟩ := p
                dsimp only at hq
                have x3 := condExprM_ext g rc (s2.incReg.push (.condExpr lv rv c.cond s2.incReg.curReg))
                cases hrc : condExprM g rc (s2.incReg.push (.condExpr lv rv c.cond s2.incReg.curReg)) with
                | mk rightReg s5 =>
                  rw [hrc] at hq x3
                  cases hq
                  obtain ⟨e2, e5⟩ := noerr_split x12 x3 he
                  obtain ⟨t3, r3⟩ := cmp e2 lv rv rfl rfl (Classical.not_not.mp hne) hpr'
                  obtain ⟨t4, r4, h4, b4⟩ := ih lg rc rfl _ rightReg s5 hrc (hs.of_trans t3) e5
                  obtain ⟨t5, r5⟩ := den_incPush (g := g)
                    (i := .logicCond lg s2.incReg.curReg rightReg s5.incReg.curReg)
                    rfl (List.append_nil _).symm
                    (fun q hq => by
                      rcases List.mem_cons.mp hq with rfl | hq
                      · exact (r3.2.of_trans t4).regs _ List.mem_cons_self
                      · cases List.mem_singleton.mp hq; exact ⟨h4, b4⟩)
                    (fun R hwk b hb => by
                      change b ∈ badIf _ _ at hb
                      rw [hwk] at hb
                      cases hb)
                    (AbsSt.bind_reg_self ..) (reg_cons_eq ..)
                  have hleft : s5.abs.reg s2.incReg.curReg = _ := (t4.stable _ r3.2).trans r3.1
                  rw [hleft, r4] at r5
                  exact ⟨(t3.trans t4).then t5, r5.1, r5.2.le, r5.2.bnd⟩

theorem den_cond {g : Globals} {rg : RGlobals} (hg : GlobRel g rg) (hn : GNames g) (ss : SpecSt) :
    ∀ (lc : LogicCond) (s : St) (q : Nat) (s' : St), condExprM g lc s = (q, s') → DScope s ss → s'.errors = s.errors →
    Trans g s s' (specLogic false ss lc).1 ∧ s'.abs.reg q = (specLogic false ss lc).2 ∧ q ≤ s'.curReg ∧
      s'.abs.bound q = true
  | .mk c none => condDen_mk hg hn ss c none fun _ _ h => nomatch h
  | .mk c (some (lg, rc)) => condDen_mk hg hn ss c (some (lg, rc)) fun _ _ h => by cases h; exact den_cond hg hn ss rc

theorem den_ifCondCalc {g : Globals} {R : Ty} {rg : RGlobals} (hg : GlobRel g rg) (hn : GNames g) (c : IfCond)
    (lb le ln : Name) (isElse : Bool) : StD g R (ifCondCalc g c lb le ln isElse) (specIfCond false c) := by
  intro s ss hr he
  unfold ifCondCalc at he ⊢
  unfold specIfCond
  cases c with
  | single e =>
    dsimp only at he ⊢
    cases hm : exprM g e s with
    | mk a s1 =>
      rw [hm] at he
      have hrun := expr_cases hg hn e (rg := rg) hr.scope hm
      cases a with
      | none => obtain ⟨_, h, _⟩ := hrun he; cases h
      | some r =>
        obtain ⟨_, h, _, t1, r1, hh⟩ := hrun he
        cases h
        refine drel_push_emit (drel_trans hr t1) _ _ ?_ rfl rfl hh.regs fun bb hb => ?_
        · show _ ++ [DStmt.branch (s1.abs.res r)] = _; rw [r1]
        · change bb ∈ badIf _ _ at hb
          rw [hh.operandOk] at hb
          cases hb
  | logic lc =>
    dsimp only at he ⊢
    cases hq : condExprM g lc s with
    | mk q s1 =>
      rw [hq] at he
      obtain ⟨t1, r1, hq1, hb1⟩ := den_cond hg hn ss lc s q s1 hq hr.scope he
      refine drel_push_emit (drel_trans hr t1) _ _ ?_ rfl rfl
        (fun q' hq' => by cases List.mem_singleton.mp hq'; exact ⟨hq1, hb1⟩) (fun bb hb => nomatch hb)
      show _ ++ [DStmt.branch (s1.abs.reg q)] = _; rw [r1]

theorem abs_setReturn (s : St) : s.setReturn.abs = s.abs := abs_of_ctx rfl

theorem innerUsed_setReturn (s : St) (n : Name) : s.setReturn.innerUsed n = s.innerUsed n := by
  unfold St.setReturn; apply innerUsed_mapFrames; intro b; rfl

theorem drel_setReturn {g : Globals} {R : Ty} {s : St} {ss : SpecSt} (hr : DRel g R s ss) : DRel g R s.setReturn ss :=
  ⟨⟨by unfold ScopeRel; rw [vals_setReturn]; exact hr.scope.sc, by rw [abs_setReturn, vals_setReturn]; exact hr.scope.dv,
    by rw [vals_setReturn]; exact hr.scope.dk, hr.scope.dn⟩,
   by rw [abs_setReturn]; exact hr.out, by rw [abs_setReturn]; exact hr.next,
   fun n hn => hr.reg n (by rw [abs_setReturn] at hn; exact hn),
   rd_same hr.rd (fun b hb => by
     obtain ⟨b', hb', rfl⟩ := List.mem_map.mp hb
     exact hr.rd.sync b' hb') rfl rfl, tok_of_ctx rfl hr.tok,
   by rw [dts_setReturn]; exact hr.vinv, by rw [dts_setReturn]; exact hr.vreg, wle_of_ctx rfl (Nat.le_refl _) hr.wle⟩

/-- the checks of a return instruction pass up to the comparison with the result type, which only the
jump-return may fail (F9) -/
theorem ret_checks {R : Ty} {e : TyEnv} {x : ExprResult} {i : Instr} (hx : operandOk e x = true)
    (hR : x.ty = R ∨ ∀ b, b = TyBad.retType → b.known i = true) :
    ∀ b ∈ badIf (operandOk e x) .retOperand ++ badIf (x.ty == R) .retType, b.known i = true := by
  intro b hb
  rw [hx, badIf_true, List.nil_append] at hb
  unfold badIf at hb
  split at hb
  · cases hb
  · rcases hR with hR | hR
    · exact absurd (beq_iff_eq.mpr hR) ‹_›
    · exact hR b (List.mem_singleton.mp hb)

theorem den_nestedReturn {g : Globals} {R : Ty} {rg : RGlobals} (hg : GlobRel g rg) (hn : GNames g) (e : Expr)
    (s : St) (ss : SpecSt) (hr : DRel g R s ss) (he : (nestedReturn g e s).1.errors = s.errors) :
    DRel g R (nestedReturn g e s).1 (specJret false rg e ss) := by
  unfold nestedReturn at he ⊢
  unfold specJret
  cases hm : exprM g e s with
  | mk a s1 =>
    rw [hm] at he
    have hrun := expr_cases hg hn e (rg := rg) hr.scope hm
    cases a with
    | none => obtain ⟨_, h, _⟩ := hrun he; cases h
    | some r =>
      obtain ⟨_, h, hcty, t1, r1, hh⟩ := hrun he
      cases h
      refine drel_setReturn (drel_push_emit (drel_trans hr t1) _ _ ?_ rfl rfl hh.regs
        (ret_checks hh.operandOk (Or.inr fun b hb => by rw [hb]; rfl)))
      show _ ++ [DStmt.jret r.ty (s1.abs.res r)] = _
      rw [r1, hcty]; rfl

theorem den_fnReturn {g : Globals} {rg : RGlobals} (hg : GlobRel g rg) (hn : GNames g) (resTy : Ty) (e : Expr) (rc : Bool)
    (s : St) (ss : SpecSt) (hr : DRel g resTy s ss) (he : (fnReturn g resTy e rc s).1.errors = s.errors) :
    DRel g resTy (fnReturn g resTy e rc s).1 (specRet false e ss) := by
  unfold fnReturn at he ⊢
  unfold specRet
  have x1 := exprM_ext g e s
  cases hm : exprM g e s with
  | mk a s1 =>
    rw [hm] at he x1
    dsimp only at he ⊢
    have hrun := expr_cases hg hn e (rg := rg) hr.scope hm
    cases rc with
    | true =>
      -- a second return is reported
      exfalso
      simp only [if_true] at he
      cases a with
      | none => exact addErr_ne x1 _ _ _ _ he
      | some r => exact noerr_addErr x1 (steps_fnReturnTail g resTy e r _).errors_ext he
    | false =>
      simp only [Bool.false_eq_true, if_false] at he ⊢
      cases a with
      | none => obtain ⟨_, h, _⟩ := hrun he; cases h
      | some r =>
        dsimp only at he ⊢
        unfold fnReturnTail at he ⊢
        dsimp only at he ⊢
        have hfin : ∀ (s3 : St), ((if s3.cur.manualReturn = true then s3.push (.fnReturnWithLabel r) else s3.push (.fnReturn r)).errors
            = s3.errors) := by
          intro s3; split <;> rfl
        rw [hfin] at he
        have c1 : (checkTypeExists g r.ty e.show s1).2 = s1 ∨
            (checkTypeExists g r.ty e.show s1).2 = s1.addErr .typeNotFound e.show 1 0 := by
          unfold checkTypeExists
          split
          · exact Or.inl rfl
          · split
            · exact Or.inl rfl
            · exact Or.inr rfl
        by_cases hrt : resTy ≠ r.ty
        · rw [if_pos hrt] at he
          exact absurd he (addErr_ne (errors_ext_trans x1 (esteps_checkTypeExists g r.ty e.show s1).errors_ext) _ _ _ _)
        · rw [if_neg hrt] at he ⊢
          rcases c1 with c1 | c1
          · rw [c1] at he ⊢
            obtain ⟨_, h, _, t1, r1, hh⟩ := hrun he
            cases h
            have h1 := drel_trans hr t1
            have hrt' : r.ty = resTy := (Classical.not_not.mp hrt).symm
            have ho := congrArg (fun x => s1.abs.out ++ [DStmt.ret x]) r1
            split
            · exact drel_push_emit h1 _ _ ho rfl rfl hh.regs (ret_checks hh.operandOk (Or.inl hrt'))
            · exact drel_push_emit h1 _ _ ho rfl rfl hh.regs (ret_checks hh.operandOk (Or.inl hrt'))
          · rw [c1] at he
            exact absurd he (addErr_ne x1 _ _ _ _)

end SemVerif
