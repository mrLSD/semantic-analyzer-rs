import SemVerif.Lemmas.RuleLock
import SemVerif.Lemmas.ExtEvents
import SemVerif.Spec.ExtVisit
/-!
# Lemmas/VisitLock — in a rule-abiding function every extension leaf is evaluated

Specification-side: when the rule checker reports nothing on a function, the leaves that
`Spec/ExtVisit.lean` says are evaluated are all the leaves of the function, each once, in source
evaluation order (`FnDecl.extLeaves`).  So on accepted programs of the domain the predicate
`P_C19_visited` says what theorem `C19` proves.
-/
namespace SemVerif

def tagsOf (l : List (Nat × PrimTy)) : List Nat := l.map (·.1)

theorem tagsOf_append (a b : List (Nat × PrimTy)) : tagsOf (a ++ b) = tagsOf a ++ tagsOf b := by simp [tagsOf]

theorem visTree_quiet {γ : Type} (cv : γ → ERes) (vv : γ → VRes) (lv : γ → List Nat) (t : W γ)
    (h : ∀ a ∈ t.atoms, NV (cv a) ∧ ((cv a).1 = [] → vv a = (lv a, (cv a).2))) :
    NV (checkTree (t.map cv)) ∧
      ((checkTree (t.map cv)).1 = [] → visTree (t.map vv) = (t.atoms.flatMap lv, (checkTree (t.map cv)).2)) := by
  induction t with
  | atom a =>
    have ha := h a (List.mem_singleton_self a)
    exact ⟨ha.1, fun hq => by rw [W.atoms, List.flatMap_singleton]; exact ha.2 hq⟩
  | pair l o r ihl ihr =>
    have hl := ihl fun a ha => h a (List.mem_append_left _ ha)
    have hr := ihr fun a ha => h a (List.mem_append_right _ ha)
    refine ⟨(checkPair_quiet hl.1 hr.1).1, fun hq => ?_⟩
    obtain ⟨t, el, er⟩ := (checkPair_quiet hl.1 hr.1).2 hq
    have il := hl.2 (by rw [el])
    have ir := hr.2 (by rw [er])
    rw [el] at il
    rw [er] at ir
    show visPair (visTree (l.map vv)) (visTree (r.map vv)) =
      ((l.atoms ++ r.atoms).flatMap lv, (checkPair (checkTree (l.map cv)) (checkTree (r.map cv))).2)
    rw [il, ir, el, er, checkPair_same, List.flatMap_append]
    simp [visPair]

theorem visArgsL_all : ∀ (l : List VRes), (∀ a ∈ l, a.2.isSome = true) → visArgsL l = l.flatMap (·.1)
  | [], _ => rfl
  | (a, none) :: _, h => nomatch h (a, none) List.mem_cons_self
  | (a, some _) :: rest, h => congrArg (a ++ ·) (visArgsL_all rest fun x hx => h x (List.mem_cons_of_mem _ hx))

theorem extLeaves_chain : ∀ (v : ExprValue) (rest : Option (Op × Expr)),
    (Expr.mk v rest).extLeaves = (v :: (chainTail rest).map (·.2)).flatMap ExprValue.extLeaves
  | v, none => by rw [extLeaves_last]; simp [chainTail]
  | v, some (o, .mk w rest) => by
    rw [extLeaves_more, extLeaves_chain w rest]
    simp [chainTail]

theorem visRest_eq (rg : RGlobals) (sc : Scope) : ∀ r, visRest rg sc r = (chainTail r).map fun x => (x.1, visV rg sc x.2) :=
  chain_induction (by rw [chainTail]; rfl) fun o v rest ih => by
    show (o, visV rg sc v) :: visRest rg sc rest = _
    rw [chainTail, List.map_cons, ih]

theorem visEs_eq (rg : RGlobals) (sc : Scope) : ∀ as, visEs rg sc as = as.map (visE rg sc)
  | [] => rfl
  | e :: es => congrArg (visE rg sc e :: ·) (visEs_eq rg sc es)

theorem visE_mk (rg : RGlobals) (sc : Scope) (v : ExprValue) (rest : Option (Op × Expr)) :
    visE rg sc (.mk v rest) = visTree ((foldChain Generated.prio v (chainTail rest)).map (visV rg sc)) := by
  rw [← foldChain_map Generated.prio (visV rg sc), ← visRest_eq]
  rfl

theorem visV_call_eq (rg : RGlobals) (sc : Scope) (f : Name) (args : List Expr) :
    visV rg sc (.call f args) =
      match rlookup f rg.funcs with
      | none => ([], none)
      | some (ps, res) =>
        if ps.length < args.length then ([], none)
        else (visArgsL (visEs rg sc args), if (visEs rg sc args).all (·.2.isSome) then some res else none) :=
  rfl

theorem flatMap_vis (rg : RGlobals) (sc : Scope) : ∀ (args : List Expr),
    (∀ e ∈ args, visE rg sc e = (tagsOf e.extLeaves, (checkExpr rg sc e).2)) →
    (args.map (visE rg sc)).flatMap (·.1) = tagsOf (args.flatMap Expr.extLeaves)
  | [], _ => rfl
  | e :: es, h => by
    simp only [List.map_cons, List.flatMap_cons, tagsOf_append]
    rw [h e (by simp), flatMap_vis rg sc es (fun x hx => h x (by simp [hx]))]

mutual
theorem visLockE (rg : RGlobals) (sc : Scope) : ∀ e, (checkExpr rg sc e).1 = [] →
    visE rg sc e = (tagsOf e.extLeaves, (checkExpr rg sc e).2)
  | .mk v rest => by
    intro hq
    rw [checkExpr_mk] at hq ⊢
    rw [visE_mk, (visTree_quiet _ _ (fun a => tagsOf a.extLeaves) _ fun a ha => ⟨nv_checkVal rg sc a, ?_⟩).2 hq,
      foldChain_atoms, extLeaves_chain]
    · simp [tagsOf, List.map_flatMap]
    · rw [foldChain_atoms] at ha
      rcases List.mem_cons.mp ha with h | h
      · rw [h]; exact visLockV rg sc v
      · obtain ⟨x, hx, rfl⟩ := List.mem_map.mp h
        exact visLockC rg sc rest x.1 x.2 hx
theorem visLockC (rg : RGlobals) (sc : Scope) : ∀ r, ∀ o a, (o, a) ∈ chainTail r → (checkVal rg sc a).1 = [] →
    visV rg sc a = (tagsOf a.extLeaves, (checkVal rg sc a).2)
  | none => by intro o a h; rw [chainTail] at h; cases h
  | some (op, .mk v rest) => by
    intro o a h
    rw [chainTail] at h
    rcases List.mem_cons.mp h with h | h
    · rw [(Prod.mk.inj h).2]; exact visLockV rg sc v
    · exact visLockC rg sc rest o a h
theorem visLockV (rg : RGlobals) (sc : Scope) : ∀ v, (checkVal rg sc v).1 = [] →
    visV rg sc v = (tagsOf v.extLeaves, (checkVal rg sc v).2)
  | .var n => fun _ => rfl
  | .lit v => fun _ => rfl
  | .field x a => fun _ => rfl
  | .ext tag ty => fun _ => rfl
  | .sub e => visLockE rg sc e
  | .call f args => by
    intro hq
    have hq : (checkCall rg f (checkExprs rg sc args)).1 = [] := hq
    rw [visV_call_eq, show checkVal rg sc (.call f args) = checkCall rg f (checkExprs rg sc args) from rfl,
      show (ExprValue.call f args).extLeaves = Expr.extLeavesL args from rfl]
    rw [checkExprs_eq] at hq ⊢
    obtain ⟨ps, res, hf, hlen, hqa, hc⟩ :=
      (checkCall_quiet (List.forall_mem_map.mpr fun e _ => nv_checkExpr rg sc e)).2 hq
    -- every argument is visited in full and has a type
    have hvis : ∀ e ∈ args,
        visE rg sc e = (tagsOf e.extLeaves, (checkExpr rg sc e).2) ∧ (visE rg sc e).2.isSome = true := by
      intro e he
      have hqe := hqa _ (List.mem_map_of_mem he)
      obtain ⟨t, ht⟩ := (nv_checkExpr rg sc e).typed hqe
      have hv := visLockA rg sc args e he hqe
      exact ⟨hv, by rw [hv, ht]; rfl⟩
    have hall : ∀ a ∈ args.map (visE rg sc), a.2.isSome = true := List.forall_mem_map.mpr fun e he => (hvis e he).2
    rw [hc, hf, visEs_eq]
    dsimp only
    rw [if_neg (by rw [← hlen, List.length_map]; exact Nat.lt_irrefl _), visArgsL_all _ hall, List.all_eq_true.mpr hall,
      if_pos rfl, extLeavesL_eq, flatMap_vis rg sc args fun e he => (hvis e he).1]
theorem visLockA (rg : RGlobals) (sc : Scope) : ∀ (as : List Expr), ∀ e ∈ as, (checkExpr rg sc e).1 = [] →
    visE rg sc e = (tagsOf e.extLeaves, (checkExpr rg sc e).2)
  | [] => by intro e h; cases h
  | a :: as => by
    intro e h
    rcases List.mem_cons.mp h with h | h
    · rw [h]; exact visLockE rg sc a
    · exact visLockA rg sc as e h
end

def leavesOf (es : List Expr) : List Nat := tagsOf (es.flatMap Expr.extLeaves)

@[simp] theorem leavesOf_nil : leavesOf [] = [] := rfl

@[simp] theorem leavesOf_cons (e : Expr) (es : List Expr) : leavesOf (e :: es) = tagsOf e.extLeaves ++ leavesOf es := by
  simp [leavesOf, tagsOf_append]

@[simp] theorem leavesOf_append (a b : List Expr) : leavesOf (a ++ b) = leavesOf a ++ leavesOf b := by
  simp [leavesOf, tagsOf_append]

theorem leavesOf_single (e : Expr) : leavesOf [e] = tagsOf e.extLeaves := by simp [leavesOf]

theorem leavesOf_app {a b : List Nat} {x y : List Expr} (ha : a = leavesOf x) (hb : b = leavesOf y) :
    a ++ b = leavesOf (x ++ y) := by
  rw [ha, hb, leavesOf_append]

variable {rg : RGlobals} {R : Ty}

theorem visE_quiet {sc : Scope} {e : Expr} (h : (checkExpr rg sc e).1 = []) : (visE rg sc e).1 = leavesOf [e] := by
  rw [visLockE rg sc e h, leavesOf_single]

theorem vis_callS {c : CallS} {rs : RS} (hq : (checkCallS rg c rs).viols = []) : visCallS rg rs.scope c = leavesOf c.args := by
  unfold visCallS
  rw [visLockV rg rs.scope (.call c.name c.args) (add_nil hq).2]
  exact congrArg tagsOf (extLeavesL_eq c.args)

theorem vis_logic (sc : Scope) : ∀ (lc : LogicCond), checkLogic rg sc lc = [] → visLogic rg sc lc = leavesOf lc.exprs
  | .mk c right, hq => by
    obtain ⟨t, hl, hr, hp, hrest⟩ := logic_quiet hq
    have hlr := leavesOf_app (leavesOf_single c.left).symm (leavesOf_single c.right).symm
    unfold visLogic
    dsimp only
    rw [visLockE rg sc c.left (by rw [hl]), visLockE rg sc c.right (by rw [hr]), hl, hr]
    cases right with
    | none => exact (leavesOf_app hlr leavesOf_nil.symm :)
    | some p =>
      dsimp only
      rw [if_pos (by rw [hp]; simp)]
      exact (leavesOf_app hlr (vis_logic sc p.2 (hrest p rfl)) :)

theorem vis_ifCond {c : IfCond} {rs : RS} (hq : (checkIfCond rg c rs).viols = []) : visIfCond rg rs.scope c = leavesOf c.exprs := by
  unfold checkIfCond at hq
  unfold visIfCond IfCond.exprs
  cases c with
  | single e => exact visE_quiet (add_nil hq).2
  | logic lc => exact vis_logic _ lc (add_nil hq).2

/-! The checker's scope: blocks are balanced (`tl_ind`), a quiet `let` declares what the visit declares. -/

theorem declare_tail (sc : Scope) (n : Name) (t : Ty) (m : Bool) : (sc.declare n t m).tail = sc.tail := by
  cases sc <;> rfl

theorem let_tail (b : LetB) (rs : RS) : (checkLet rg b rs).scope.tail = rs.scope.tail := by
  unfold checkLet
  split
  · rfl
  · dsimp only
    split
    · rfl
    · exact declare_tail _ _ _ _

theorem let_scope_quiet {b : LetB} {rs : RS} (hq : (checkLet rg b rs).viols = []) :
    (checkLet rg b rs).scope = visLetSc rg rs.scope b := by
  obtain ⟨t, he, hb, hsc⟩ := let_quiet hq
  unfold visLetSc
  rw [visLockE rg rs.scope b.value (by rw [he]), he, hsc]
  dsimp only
  rw [hb, if_neg Bool.false_ne_true]

theorem tl_checkN (st : NStmt) (f : Flags) (rs : RS)
    (hs : st.Sub (fun i => ∀ rs, (checkIf rg R i rs).scope = rs.scope)
      (fun l => ∀ rc bc cc rs, (checkLoopBody rg R l rc bc cc rs).scope.tail = rs.scope.tail)) :
    (checkN rg R st f rs).1.scope.tail = rs.scope.tail := by
  unfold checkN
  rw [← codeAfter_scope f.rc f.bc f.cc rs]
  generalize codeAfter f.rc f.bc f.cc rs = s0
  cases st with
  | letB b => exact let_tail b s0
  | bind b => exact congrArg List.tail (bind_ok b s0).1
  | call c => rfl
  | ifS i => exact congrArg List.tail (hs s0)
  | loop l => exact congrArg List.tail (hs false false false s0.push)
  | ret e => exact congrArg List.tail (nret_ok e s0).1
  | brk => rfl
  | cont => rfl

theorem tl_ind : BodyInd (fun i => ∀ rs, (checkIf rg R i rs).scope = rs.scope)
    (fun b => ∀ rs, (checkBodies rg R b rs).scope.tail = rs.scope.tail)
    (fun l => ∀ rc rs, (checkIfBody rg R l rc rs).scope.tail = rs.scope.tail)
    (fun l => ∀ rc bc cc rs, (checkIfLoopBody rg R l rc bc cc rs).scope.tail = rs.scope.tail)
    (fun l => ∀ rc bc cc rs, (checkLoopBody rg R l rc bc cc rs).scope.tail = rs.scope.tail) where
  ifS cond body els elif hbody hels helif rs := by
    obtain ⟨s0, hsc, heq⟩ := checkIf_mk rg R cond body els elif rs
    rw [heq, ← hsc]
    have h1 : (checkBodies rg R body (checkIfCond rg cond s0.push)).pop.scope = s0.scope :=
      (hbody _).trans (congrArg List.tail (ifCond_scope cond s0.push))
    generalize (checkBodies rg R body (checkIfCond rg cond s0.push)).pop = s1 at h1 ⊢
    cases els with
    | some eb => exact (hels eb rfl s1.push).trans h1
    | none =>
      cases elif with
      | some ei => exact (helif ei rfl s1).trans h1
      | none => exact h1
  ifb _ h := h false
  loopb _ h := h false false false
  ifNil _ _ := rfl
  ifCons st tl hs ht rc rs := by
    rw [checkIfBody_cons, ht]
    exact tl_checkN st.toN _ rs hs
  ifLoopNil _ _ _ _ := rfl
  ifLoopCons st tl hs ht rc bc cc rs := by
    rw [checkIfLoopBody_cons, ht]
    exact tl_checkN st.toN _ rs hs
  loopNil _ _ _ _ := rfl
  loopCons st tl hs ht rc bc cc rs := by
    rw [checkLoopBody_cons, ht]
    exact tl_checkN st.toN _ rs hs

theorem tl_ifBody : ∀ (l : List IfBodyStmt) (rc : Bool) (rs : RS), (checkIfBody rg R l rc rs).scope.tail = rs.scope.tail :=
  tl_ind.ifBody

theorem tl_ifLoopBody : ∀ (l : List IfLoopStmt) (rc bc cc : Bool) (rs : RS), (checkIfLoopBody rg R l rc bc cc rs).scope.tail = rs.scope.tail :=
  tl_ind.ifLoopBody

theorem vl_nStmt (st : NStmt) (f : Flags) {rs : RS} (hq : (checkN rg R st f rs).1.viols = [])
    (hs : st.Sub (fun i => ∀ rs sc, rs.scope = sc → (checkIf rg R i rs).viols = [] → visIf rg i sc = leavesOf i.exprs)
      (fun l => ∀ rc bc cc rs sc, rs.scope = sc → (checkLoopBody rg R l rc bc cc rs).viols = [] →
        visLoopBody rg l sc = leavesOf (LoopStmt.exprsL l))) :
    (visN rg st rs.scope).1 = leavesOf st.exprs ∧ (checkN rg R st f rs).1.scope = (visN rg st rs.scope).2 := by
  unfold checkN at hq ⊢
  rw [← codeAfter_scope f.rc f.bc f.cc rs]
  generalize codeAfter f.rc f.bc f.cc rs = s0 at hq ⊢
  cases st with
  | letB b => exact ⟨visE_quiet (by rw [(let_quiet hq).choose_spec.1]), let_scope_quiet hq⟩
  | bind b => exact ⟨visE_quiet ((bind_ok b s0).2 hq), (bind_ok b s0).1⟩
  | call c => exact ⟨vis_callS hq, rfl⟩
  | ifS i => exact ⟨hs s0 _ rfl hq, tl_ind.ifStmt i s0⟩
  | loop l => exact ⟨hs false false false s0.push _ rfl hq, tl_ind.loopBody l false false false s0.push⟩
  | ret e => exact ⟨visE_quiet (by rw [(nret_ok e s0).2 hq]), (nret_ok e s0).1⟩
  | brk => exact ⟨rfl, rfl⟩
  | cont => exact ⟨rfl, rfl⟩

theorem vl_ind : BodyInd
    (fun i => ∀ rs sc, rs.scope = sc → (checkIf rg R i rs).viols = [] → visIf rg i sc = leavesOf i.exprs)
    (fun b => ∀ rs sc, rs.scope = sc → (checkBodies rg R b rs).viols = [] → visBodies rg b sc = leavesOf b.exprs)
    (fun l => ∀ rc rs sc, rs.scope = sc → (checkIfBody rg R l rc rs).viols = [] →
      visIfBody rg l sc = leavesOf (IfBodyStmt.exprsL l))
    (fun l => ∀ rc bc cc rs sc, rs.scope = sc → (checkIfLoopBody rg R l rc bc cc rs).viols = [] →
      visIfLoopBody rg l sc = leavesOf (IfLoopStmt.exprsL l))
    (fun l => ∀ rc bc cc rs sc, rs.scope = sc → (checkLoopBody rg R l rc bc cc rs).viols = [] →
      visLoopBody rg l sc = leavesOf (LoopStmt.exprsL l)) where
  ifS cond body els elif hbody hels helif rs sc hsc hq := by
    obtain ⟨s0, hs0, heq⟩ := checkIf_mk rg R cond body els elif rs
    rw [heq] at hq
    rw [← hsc, ← hs0]
    -- the condition and the first body; what follows extends their report
    have l1 := fun q1 : (checkBodies rg R body (checkIfCond rg cond s0.push)).pop.viols = [] =>
      have qc := nil_of_rext (rext_checkBodies rg R body _) q1
      leavesOf_app (vis_ifCond qc) (hbody _ ([] :: s0.scope) (ifCond_scope cond s0.push) q1)
    have h1 : (checkBodies rg R body (checkIfCond rg cond s0.push)).pop.scope = s0.scope :=
      (tl_ind.bodies body _).trans (congrArg List.tail (ifCond_scope cond s0.push))
    cases els with
    | some eb =>
      exact (leavesOf_app (l1 (nil_of_rext (rext_pushpop (rext_checkBodies rg R eb)) hq))
        (hels eb rfl _ _ (congrArg ([] :: ·) h1) hq) :)
    | none =>
      cases elif with
      | some ei => exact (leavesOf_app (l1 (nil_of_rext (rext_checkIf rg R ei _) hq)) (helif ei rfl _ _ h1 hq) :)
      | none => exact (leavesOf_app (l1 hq) leavesOf_nil.symm :)
  ifb _ h := h false
  loopb _ h := h false false false
  ifNil _ _ _ _ _ := rfl
  ifCons st tl hs ht rc rs sc hsc hq := by
    rw [checkIfBody_cons] at hq
    rw [visIfBody_cons, IfBodyStmt.exprsL_cons, ← hsc]
    have hn := vl_nStmt st.toN _ (nil_of_rext (rext_checkIfBody rg R tl _ _) hq) hs
    exact leavesOf_app hn.1 (ht _ _ _ hn.2 hq)
  ifLoopNil _ _ _ _ _ _ _ := rfl
  ifLoopCons st tl hs ht rc bc cc rs sc hsc hq := by
    rw [checkIfLoopBody_cons] at hq
    rw [visIfLoopBody_cons, IfLoopStmt.exprsL_cons, ← hsc]
    have hn := vl_nStmt st.toN _ (nil_of_rext (rext_checkIfLoopBody rg R tl _ _ _ _) hq) hs
    exact leavesOf_app hn.1 (ht _ _ _ _ _ hn.2 hq)
  loopNil _ _ _ _ _ _ _ := rfl
  loopCons st tl hs ht rc bc cc rs sc hsc hq := by
    rw [checkLoopBody_cons] at hq
    rw [visLoopBody_cons, LoopStmt.exprsL_cons, ← hsc]
    have hn := vl_nStmt st.toN _ (nil_of_rext (rext_checkLoopBody rg R tl _ _ _ _) hq) hs
    exact leavesOf_app hn.1 (ht _ _ _ _ _ hn.2 hq)

theorem vl_bodies : ∀ (b : IfBodies) (rs : RS) (sc : Scope), rs.scope = sc →
    (checkBodies rg R b rs).viols = [] → visBodies rg b sc = leavesOf b.exprs :=
  vl_ind.bodies

theorem vl_ifBody : ∀ (l : List IfBodyStmt) (rc : Bool) (rs : RS) (sc : Scope), rs.scope = sc →
    (checkIfBody rg R l rc rs).viols = [] → visIfBody rg l sc = leavesOf (IfBodyStmt.exprsL l) :=
  vl_ind.ifBody

theorem vl_ifLoopBody : ∀ (l : List IfLoopStmt) (rc bc cc : Bool) (rs : RS) (sc : Scope), rs.scope = sc →
    (checkIfLoopBody rg R l rc bc cc rs).viols = [] → visIfLoopBody rg l sc = leavesOf (IfLoopStmt.exprsL l) :=
  vl_ind.ifLoopBody

theorem vl_stmt (st : NStmt) (f : Flags) {rs : RS} (hq : (checkN rg R st f rs).1.viols = []) :
    (visN rg st rs.scope).1 = leavesOf st.exprs ∧ (checkN rg R st f rs).1.scope = (visN rg st rs.scope).2 :=
  vl_nStmt st f hq (vl_ind.sub st)

theorem vl_body (l : List BodyStmt) : ∀ (rc : Bool) (rs : RS) (sc : Scope), rs.scope = sc →
    (checkBody rg R l rc rs).1.viols = [] → visBody rg l sc = leavesOf (BodyStmt.exprsL l) := by
  induction l with
  | nil => exact fun _ _ _ _ _ => rfl
  | cons st tl ih =>
    intro rc rs sc hsc hq
    rw [← hsc, ← afterRet_scope rc rs, visBody_cons, BodyStmt.exprsL_cons]
    rw [checkBody_cons] at hq
    generalize st.split = q at hq ⊢
    cases q with
    | inl n =>
      have hn := vl_stmt n _ (nil_of_rext (rext_checkBody R tl _ _) hq)
      exact leavesOf_app hn.1 (ih rc _ _ hn.2 hq)
    | inr e =>
      have q1 := nil_of_rext (rext_checkBody R tl _ _) hq
      exact leavesOf_app (visE_quiet ((fnret_ok e rc _).2 q1)) (ih _ _ _ (fnret_ok e rc _).1 hq)

theorem vl_fn (rg : RGlobals) (f : FnDecl) (hq : checkFn rg f = []) : visFn rg f = f.extLeaves.map (·.1) :=
  vl_body (R := f.result.toTy) f.body false _ _ rfl (checkFn_quiet hq)

end SemVerif
