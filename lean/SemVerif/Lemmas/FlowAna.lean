import SemVerif.Lemmas.FlowLay
import SemVerif.Lemmas.T2Fn
import SemVerif.Lemmas.ExtEvents
import SemVerif.Spec.Findings
import SemVerif.Lemmas.FlowF2
import SemVerif.Props.C10Res
import SemVerif.Lemmas.BodySpec
/-!
# Lemmas/FlowAna — the analyzer emits laid-out code (family T4, analyzer half)

For a function analysed without error whose body does not match finding F3, the root stack is a
layout (`Lay`) of the structured flow of the source under the F2 reading (`FnDecl.flowF2`; that is
`FnDecl.flow` when the body does not match F2 either): every control construct emits its labels,
jumps and branch in the shape the layout rules describe, and everything below the control
constructs is straight-line code with one effect instruction per event.  The claims are in
continuation-passing style (`CPSv`, `BodyJ`, `PassV`, `RetV`) on top of the T2 relation `DRel`, which
supplies the success of every evaluation and the number of call events.  `lay_nStmt` lays out one
statement of a nested body, `lay_if` and `lay_loopWrap` an `if` and a loop given their parts; the
induction over the control constructs (`lay_ind`) only ties them together.
-/
namespace SemVerif

theorem straight_of {i : Instr} (ht : i.targets = []) (hl : i.setsLabel = none) (hr : i.isRet = false) :
    i.straight = true := by
  unfold Instr.straight; rw [ht, hl, hr]; rfl

theorem estep_seg {s s' : St} (st : EStep s s') :
    ∃ seg, s'.root.context = s.root.context ++ seg ∧ ∀ i ∈ seg, i.straight = true := by
  have one : ∀ {i : Instr}, i.straight = true → ∀ j ∈ [i], j.straight = true :=
    fun hs j hj => List.mem_singleton.mp hj ▸ hs
  cases st with
  | incReg => exact ⟨[], (List.append_nil _).symm, fun _ h => nomatch h⟩
  | emit i _ _ hl _ hr ht => exact ⟨[i], rfl, one (straight_of ht hl hr)⟩
  | incEmit i hw _ hl _ ht => exact ⟨[i], rfl, one (straight_of ht hl (isRet_of_writes hw))⟩
  | addErr k v l o => exact ⟨[], (List.append_nil _).symm, fun _ h => nomatch h⟩
  | declare n v i hi _ hl _ _ ht =>
    refine ⟨[i], ?_, one (straight_of ht hl (isRet_of_declares hi))⟩
    unfold St.push St.registerInner St.mapFrames St.insertValue St.mapCur
    cases s.inner <;> rfl

theorem esteps_seg {s s' : St} (h : ESteps s s') :
    ∃ seg, s'.root.context = s.root.context ++ seg ∧ ∀ i ∈ seg, i.straight = true := by
  induction h with
  | refl => exact ⟨[], (List.append_nil _).symm, fun _ h => nomatch h⟩
  | tail _ st ih =>
    obtain ⟨seg1, h1, s1⟩ := ih
    obtain ⟨seg2, h2, s2⟩ := estep_seg st
    exact ⟨seg1 ++ seg2, by rw [h2, h1, List.append_assoc], fun i hi => (List.mem_append.mp hi).elim (s1 i) (s2 i)⟩

def DStmt.isEff : DStmt → Bool
  | .letD _ _ _ | .assign _ _ | .callS _ | .ret _ | .jret _ _ => true
  | _ => false

def countEff (l : List DStmt) : Nat := (l.filter DStmt.isEff).length

theorem countEff_append (a b : List DStmt) : countEff (a ++ b) = countEff a + countEff b := by
  simp [countEff, List.filter_append]

theorem countEff_step (A : AbsSt) (i : Instr) :
    countEff (abstractStep A i).out = countEff A.out + (if i.isEffect then 1 else 0) := by
  cases i with
  | fnArg | call | ext | letBinding | binding | ifCondExpr | ifCondLogic | fnReturn | fnReturnWithLabel | jumpFnReturn =>
    exact countEff_append _ [_]
  | _ => exact (Nat.add_zero _).symm

theorem countEff_fold (stack : List Instr) : ∀ (A : AbsSt),
    countEff (stack.foldl abstractStep A).out = countEff A.out + effCount stack := by
  induction stack with
  | nil => intro A; rfl
  | cons i rest ih =>
    intro A
    rw [List.foldl_cons, ih, countEff_step, effCount_cons, Nat.add_assoc]

theorem eff_of_drel {g : Globals} {R : Ty} {s : St} {ss : SpecSt} (h : DRel g R s ss) : effCount s.root.context = countEff ss.out := by
  rw [← h.out]
  exact ((countEff_fold _ _).trans (Nat.zero_add _)).symm

theorem calls_more (v : ExprValue) (o : Op) (e : Expr) : (Expr.mk v (some (o, e))).calls = v.calls + e.calls := rfl

theorem calls_last (v : ExprValue) : (Expr.mk v none).calls = v.calls := rfl

mutual
theorem ce_specExpr (s : SpecSt) : ∀ e, countEff (specExpr false s e).1 = e.calls
  | .mk v none => by
    rw [specExpr_events, calls_last]
    exact (congrArg countEff (List.append_nil _)).trans (ce_specVal s v)
  | .mk v (some (o, e)) => by
    rw [specExpr_events, countEff_append, ce_specVal s v, calls_more, ce_specRest s o e]
theorem ce_specRest (s : SpecSt) : ∀ o e, countEff ((specRest false s (some (o, e))).map (·.2.1)).flatten = e.calls
  | o, .mk v none => (congrArg countEff (List.append_nil _)).trans (ce_specVal s v)
  | o, .mk v (some (o2, e2)) => by
    show countEff ((specVal false s v).1 ++ _) = _
    rw [countEff_append, ce_specVal s v, ce_specRest s o2 e2, calls_more]
theorem ce_specVal (s : SpecSt) : ∀ v, countEff (specVal false s v).1 = v.calls
  | .var _ => rfl
  | .lit _ => rfl
  | .call _ args => (countEff_append _ [_]).trans (congrArg (· + 1) (ce_specArgs s args))
  | .field _ _ => rfl
  | .sub e => ce_specExpr s e
  | .ext _ _ => rfl
theorem ce_specArgs (s : SpecSt) : ∀ as, countEff (specArgs false s as).1 = Expr.callsL as
  | [] => rfl
  | e :: es => by
    show countEff ((specExpr false s e).1 ++ (specArgs false s es).1) = e.calls + Expr.callsL es
    rw [countEff_append, ce_specExpr s e, ce_specArgs s es]
end

theorem ce_specLogic (s : SpecSt) : ∀ lc, countEff (specLogic false s lc).1 = lc.calls
  | .mk c none => by
    show countEff ((specExpr false s c.left).1 ++ (specExpr false s c.right).1) = c.left.calls + c.right.calls
    rw [countEff_append, ce_specExpr, ce_specExpr]
  | .mk c (some (lg, rc)) => by
    show countEff ((specExpr false s c.left).1 ++ (specExpr false s c.right).1 ++ (specLogic false s rc).1) =
      c.left.calls + c.right.calls + rc.calls
    rw [countEff_append, countEff_append, ce_specExpr, ce_specExpr, ce_specLogic s rc]

theorem countEff_stmt (out evs : List DStmt) (d : DStmt) :
    countEff (out ++ evs ++ [d]) = countEff out + (countEff evs + if d.isEff then 1 else 0) := by
  rw [countEff_append, countEff_append, Nat.add_assoc]
  cases h : d.isEff <;> simp [countEff, h]

theorem cnt_let (g : RGlobals) (b : LetB) (s : SpecSt) :
    countEff (specLet false g b s).out = countEff s.out + (b.value.calls + 1) := by
  rw [← ce_specExpr s b.value]; exact countEff_stmt s.out _ (.letD _ _ _)

theorem cnt_bind (b : Bind) (s : SpecSt) :
    countEff (specBind false b s).out = countEff s.out + (b.value.calls + 1) := by
  rw [← ce_specExpr s b.value]; exact countEff_stmt s.out _ (.assign _ _)

theorem cnt_callS (c : CallS) (s : SpecSt) :
    countEff (specCallS false c s).out = countEff s.out + (Expr.callsL c.args + 1) := by
  rw [← ce_specArgs s c.args]; exact (congrArg countEff (List.append_assoc _ _ _).symm).trans (countEff_stmt s.out _ (.callS _))

theorem cnt_jret (e : Expr) (s : SpecSt) : countEff (specJret false rg e s).out = countEff s.out + (e.calls + 1) := by
  rw [← ce_specExpr s e]; exact countEff_stmt s.out _ (.jret _ _)

theorem cnt_ret (e : Expr) (s : SpecSt) : countEff (specRet false e s).out = countEff s.out + (e.calls + 1) := by
  rw [← ce_specExpr s e]; exact countEff_stmt s.out _ (.ret _)

theorem cnt_ifCond (c : IfCond) (s : SpecSt) : countEff (specIfCond false c s).out = countEff s.out + c.calls := by
  cases c with
  | single e => rw [IfCond.calls, ← ce_specExpr s e]; exact countEff_stmt s.out _ (.branch _)
  | logic lc => rw [IfCond.calls, ← ce_specLogic s lc]; exact countEff_stmt s.out _ (.branch _)

/-- between `s` and `s'` the root stack grew by a segment that lays out the flow `p.1`, its events numbered
from the effect count of `s`, in front of whatever is laid out after it; `p.2` is the next free event
number -/
def CPSv (K : LoopK) (s s' : St) (p : List Flow × Nat) : Prop :=
  ∃ seg, s'.root.context = s.root.context ++ seg ∧
    p.2 = effCount s.root.context + effCount seg ∧
    ∀ rest code e, Lay K (effCount s.root.context + effCount seg) rest code e →
      Lay K (effCount s.root.context) (p.1 ++ rest) (seg ++ code) e

/-- `CPSv` with flow and next number as functions of the current event number -/
def CPS (K : LoopK) (s s' : St) (fl : Nat → List Flow × Nat) : Prop :=
  ∃ seg, s'.root.context = s.root.context ++ seg ∧
    (fl (effCount s.root.context)).2 = effCount s.root.context + effCount seg ∧
    ∀ rest code e, Lay K (effCount s.root.context + effCount seg) rest code e →
      Lay K (effCount s.root.context) ((fl (effCount s.root.context)).1 ++ rest) (seg ++ code) e

/-- like `CPSv`, but what follows is never reached (return, break, continue) -/
def RetV (K : LoopK) (s s' : St) (p : List Flow × Nat) : Prop :=
  ∃ seg, s'.root.context = s.root.context ++ seg ∧ p.2 = effCount s.root.context + effCount seg ∧
    ∀ rest code e, Lay K (effCount s.root.context) (p.1 ++ rest) (seg ++ code) e

/-- a list that leaves by a jump to `lEnd`, followed by that jump unless it ended in a return -/
def BodyJ (K : LoopK) (s : St) (res : St × Bool) (p : List Flow × Nat) (lEnd : Name) : Prop :=
  ∃ seg, res.1.root.context = s.root.context ++ seg ∧ p.2 = effCount s.root.context + effCount seg ∧
    Lay K (effCount s.root.context) p.1 (seg ++ (if res.2 then [] else [Instr.jumpTo lEnd])) (.jump lEnd)

/-- a construct that leaves by a jump to the label `l0` it was handed -/
def PassV (K : LoopK) (s s' : St) (p : List Flow × Nat) (l0 : Name) : Prop :=
  ∃ seg, s'.root.context = s.root.context ++ seg ∧ p.2 = effCount s.root.context + effCount seg ∧
    Lay K (effCount s.root.context) p.1 seg (.jump l0)

/-- `PassV` with flow and next number as functions of the current event number -/
def PassC (K : LoopK) (s s' : St) (fl : Nat → List Flow × Nat) (l0 : Name) : Prop :=
  ∃ seg, s'.root.context = s.root.context ++ seg ∧
    (fl (effCount s.root.context)).2 = effCount s.root.context + effCount seg ∧
    Lay K (effCount s.root.context) (fl (effCount s.root.context)).1 seg (.jump l0)

/-- the labels of the enclosing loop, and whether its end label is available for `break` -/
def KOf (ll : Option (Name × Name)) (b : Bool) : LoopK :=
  match ll with
  | none => none
  | some (lb, le) => some (lb, le, b)

theorem kof_some (lb le : Name) (b : Bool) : KOf (some (lb, le)) b = some (lb, le, b) := rfl

theorem eff_nil : effCount [] = 0 := rfl

theorem eff_label (l : Name) : effCount [Instr.setLabel l] = 0 := rfl

theorem eff_jump (l : Name) : effCount [Instr.jumpTo l] = 0 := rfl

theorem eff_ite_jump (r : Bool) (l : Name) : effCount (if r then [] else [Instr.jumpTo l]) = 0 := by cases r <;> rfl

theorem eff_ite_label (r : Bool) (l : Name) : effCount (if r then [Instr.setLabel l] else []) = 0 := by cases r <;> rfl

theorem seg_trans {a b c : St} {seg1 seg2 : List Instr} {m : Nat} (c1 : b.root.context = a.root.context ++ seg1)
    (c2 : c.root.context = b.root.context ++ seg2) (n2 : m = effCount b.root.context + effCount seg2) :
    c.root.context = a.root.context ++ (seg1 ++ seg2) ∧
    m = effCount a.root.context + effCount (seg1 ++ seg2) ∧
    effCount b.root.context = effCount a.root.context + effCount seg1 := by
  refine ⟨by rw [c2, c1, List.append_assoc], ?_, by rw [c1, effCount_append]⟩
  rw [n2, c1, effCount_append, effCount_append, Nat.add_assoc]

theorem CPSv.eff {K : LoopK} {s s' : St} {p : List Flow × Nat} (h : CPSv K s s' p) : effCount s'.root.context = p.2 := by
  obtain ⟨seg, h1, h2, _⟩ := h
  rw [h1, effCount_append, h2]

theorem PassV.eff {K : LoopK} {s s' : St} {p : List Flow × Nat} {l0 : Name} (h : PassV K s s' p l0) :
    effCount s'.root.context = p.2 := by
  obtain ⟨seg, h1, h2, _⟩ := h
  rw [h1, effCount_append, h2]

theorem CPSv.same {K : LoopK} {s s' : St} (h : s'.root.context = s.root.context) :
    CPSv K s s' ([], effCount s.root.context) :=
  ⟨[], by rw [h, List.append_nil], rfl, fun _ _ _ h => h⟩

theorem CPSv.trans {K : LoopK} {a b c : St} {p1 p2 : List Flow × Nat} (h1 : CPSv K a b p1) (h2 : CPSv K b c p2) :
    CPSv K a c (p1.1 ++ p2.1, p2.2) := by
  obtain ⟨seg1, c1, _, l1⟩ := h1
  obtain ⟨seg2, c2, n2, l2⟩ := h2
  obtain ⟨hc, hm, hb⟩ := seg_trans c1 c2 n2
  refine ⟨seg1 ++ seg2, hc, hm, fun rest code e h => ?_⟩
  rw [effCount_append, ← Nat.add_assoc, ← hb] at h
  have := l1 _ _ _ (hb ▸ l2 rest code e h)
  rwa [← List.append_assoc, ← List.append_assoc] at this

theorem CPSv.thenBody {K : LoopK} {a b : St} {res : St × Bool} {p1 p2 : List Flow × Nat} {lEnd : Name}
    (h1 : CPSv K a b p1) (h2 : BodyJ K b res p2 lEnd) : BodyJ K a res (p1.1 ++ p2.1, p2.2) lEnd := by
  obtain ⟨seg1, c1, _, l1⟩ := h1
  obtain ⟨seg2, c2, n2, l2⟩ := h2
  obtain ⟨hc, hm, hb⟩ := seg_trans c1 c2 n2
  refine ⟨seg1 ++ seg2, hc, hm, ?_⟩
  have := l1 _ _ _ (hb ▸ l2)
  rwa [← List.append_assoc] at this

theorem CPSv.thenPass {K : LoopK} {a b c : St} {p1 p2 : List Flow × Nat} {l0 : Name}
    (h1 : CPSv K a b p1) (h2 : PassV K b c p2 l0) : PassV K a c (p1.1 ++ p2.1, p2.2) l0 := by
  obtain ⟨seg1, c1, _, l1⟩ := h1
  obtain ⟨seg2, c2, n2, l2⟩ := h2
  obtain ⟨hc, hm, hb⟩ := seg_trans c1 c2 n2
  exact ⟨seg1 ++ seg2, hc, hm, l1 _ _ _ (hb ▸ l2)⟩

/-- finding F2: a nested `if` that was handed the end label of the enclosing body leaves by a jump
to it, so whatever the body emits afterwards is dead code -/
theorem bodyj_dead {K : LoopK} {s s1 : St} {res : St × Bool} {p1 p2 : List Flow × Nat} {lEnd : Name}
    (h1 : PassV K s s1 p1 lEnd) (h2 : BodyJ K s1 res p2 lEnd) : BodyJ K s res (p1.1, p2.2) lEnd := by
  obtain ⟨seg1, c1, _, l1⟩ := h1
  obtain ⟨seg2, c2, n2, _⟩ := h2
  obtain ⟨hc, hm, _⟩ := seg_trans c1 c2 n2
  refine ⟨seg1 ++ seg2, hc, hm, ?_⟩
  rw [List.append_assoc]
  exact Lay.dead _ l1

theorem RetV.cps {K : LoopK} {s s' : St} {p : List Flow × Nat} (h : RetV K s s' p) : CPSv K s s' p := by
  obtain ⟨seg, h1, h2, h3⟩ := h
  exact ⟨seg, h1, h2, fun rest code e _ => h3 rest code e⟩

theorem RetV.body {K : LoopK} {s : St} {res : St × Bool} {p : List Flow × Nat} {lEnd : Name} (h : RetV K s res.1 p) :
    BodyJ K s res p lEnd := by
  obtain ⟨seg, h1, h2, h3⟩ := h
  refine ⟨seg, h1, h2, ?_⟩
  have := h3 [] (if res.2 then [] else [Instr.jumpTo lEnd]) (.jump lEnd)
  rwa [List.append_nil] at this

theorem BodyJ.pass {K : LoopK} {s s' : St} {res : St × Bool} {p : List Flow × Nat} {lEnd : Name} (h : BodyJ K s res p lEnd)
    (hc : s'.root.context = res.1.root.context ++ (if res.2 then [] else [Instr.jumpTo lEnd])) : PassV K s s' p lEnd := by
  obtain ⟨seg, h1, h2, h3⟩ := h
  exact ⟨_, by rw [hc, h1, List.append_assoc], by rw [effCount_append, eff_ite_jump]; exact h2, h3⟩

theorem CPS.eff {K : LoopK} {s s' : St} {fl : Nat → List Flow × Nat} (h : CPS K s s' fl) :
    effCount s'.root.context = (fl (effCount s.root.context)).2 := CPSv.eff h

theorem CPS.refl (K : LoopK) (s : St) : CPS K s s (fun n => ([], n)) := CPSv.same rfl

theorem CPS.same {K : LoopK} {s s' : St} (h : s'.root.context = s.root.context) : CPS K s s' (fun n => ([], n)) := CPSv.same h

theorem CPS.trans {K : LoopK} {a b c : St} {f1 f2 : Nat → List Flow × Nat} (h1 : CPS K a b f1) (h2 : CPS K b c f2) :
    CPS K a c (fun n => ((f1 n).1 ++ (f2 (f1 n).2).1, (f2 (f1 n).2).2)) := by
  have h2' : CPSv K b c (f2 (f1 (effCount a.root.context)).2) := by rw [← h1.eff]; exact h2
  exact CPSv.trans h1 h2'

theorem PassC.eff {K : LoopK} {s s' : St} {fl : Nat → List Flow × Nat} {l0 : Name} (h : PassC K s s' fl l0) :
    effCount s'.root.context = (fl (effCount s.root.context)).2 := PassV.eff h

theorem CPS.thenPass {K : LoopK} {a b c : St} {f1 f2 : Nat → List Flow × Nat} {l0 : Name}
    (h1 : CPS K a b f1) (h2 : PassC K b c f2 l0) :
    PassC K a c (fun n => ((f1 n).1 ++ (f2 (f1 n).2).1, (f2 (f1 n).2).2)) l0 := by
  have h2' : PassV K b c (f2 (f1 (effCount a.root.context)).2) l0 := by rw [← h1.eff]; exact h2
  exact CPSv.thenPass h1 h2'

theorem PassC.dead {K : LoopK} {a b c : St} {fl : Nat → List Flow × Nat} {l0 : Name} (d : List Instr)
    (h : PassC K a b fl l0) (hc : c.root.context = b.root.context ++ d) (hd : effCount d = 0) : PassC K a c fl l0 := by
  obtain ⟨seg, c1, n1, l1⟩ := h
  exact ⟨seg ++ d, by rw [hc, c1, List.append_assoc], by rw [effCount_append, hd, n1]; rfl, Lay.dead d l1⟩

section leaves
variable {g : Globals} {R : Ty} {rg : RGlobals}

theorem eff_trans {s s1 : St} {ss : SpecSt} {evs : List DStmt} (hr : DRel g R s ss) (t : Trans g s s1 evs) :
    effCount s1.root.context = effCount s.root.context + countEff evs := by
  rw [eff_of_drel (drel_trans hr t), eff_of_drel hr]
  exact countEff_append _ _

theorem cps_straight {K : LoopK} {s s' : St} {ss ss' : SpecSt} (h : ESteps s s') (hr : DRel g R s ss) (hr' : DRel g R s' ss')
    (c : Nat) (hc : countEff ss'.out = countEff ss.out + c) :
    CPSv K s s' (evs (effCount s.root.context) c, effCount s.root.context + c) := by
  obtain ⟨seg, h1, h2⟩ := esteps_seg h
  have hseg : effCount seg = c := by
    have := eff_of_drel hr'
    rw [hc, ← eff_of_drel hr, h1, effCount_append] at this
    exact Nat.add_left_cancel this
  subst hseg
  exact ⟨seg, h1, rfl, fun rest code e hl => lay_seg seg _ h2 hl⟩

theorem cps_ret_seg {K : LoopK} {s s1 : St} (h : ESteps s s1) (c : Nat)
    (hc : effCount s1.root.context = effCount s.root.context + c) (i : Instr) (hi : i.isRet = true)
    (hie : effCount [i] = 1) (s' : St) (hs' : s'.root.context = s1.root.context ++ [i]) :
    RetV K s s' (evs (effCount s.root.context) c ++ [.ret (effCount s.root.context + c)], effCount s.root.context + c + 1) := by
  obtain ⟨seg, h1, h2⟩ := esteps_seg h
  have hseg : effCount seg = c := by rw [h1, effCount_append] at hc; exact Nat.add_left_cancel hc
  subst hseg
  refine ⟨seg ++ [i], by rw [hs', h1, List.append_assoc], by rw [effCount_append, hie, Nat.add_assoc], fun rest code e => ?_⟩
  rw [List.append_assoc, List.append_assoc]
  exact lay_seg seg _ h2 (Lay.ret K _ _ i _ e hi)

theorem expr_ok (hg : GlobRel g rg) (hn : GNames g) (e : Expr) (s : St) (ss : SpecSt) (hr : DRel g R s ss)
    (he : (exprM g e s).2.errors = s.errors) :
    ∃ r s1, exprM g e s = (some r, s1) ∧ ESteps s s1 ∧ effCount s1.root.context = effCount s.root.context + e.calls := by
  obtain ⟨r, s1, hm, _, _, t1, _⟩ := expr_run hg hn e hr.scope he
  refine ⟨r, s1, hm, ?_, ?_⟩
  · have := em_exprM g e s
    rwa [hm] at this
  · rw [eff_trans hr t1, ce_specExpr]

theorem cps_jret (hg : GlobRel g rg) (hn : GNames g) (K : LoopK) (e : Expr) (s : St) (ss : SpecSt) (hr : DRel g R s ss)
    (he : (nestedReturn g e s).1.errors = s.errors) :
    RetV K s (nestedReturn g e s).1 (lowerRet e (effCount s.root.context)) ∧ (nestedReturn g e s).2 = true := by
  unfold nestedReturn at he ⊢
  have hx : (exprM g e s).2.errors = s.errors := by
    cases hm : exprM g e s with
    | mk a s1 => rw [hm] at he; cases a <;> exact he
  obtain ⟨r, s1, hm, hst, hc⟩ := expr_ok hg hn e s ss hr hx
  rw [hm]
  exact ⟨cps_ret_seg hst e.calls hc (.jumpFnReturn r) rfl rfl _ rfl, rfl⟩

theorem cps_fnRet (hg : GlobRel g rg) (hn : GNames g) (K : LoopK) (resTy : Ty) (e : Expr) (s : St) (ss : SpecSt)
    (hr : DRel g resTy s ss) (he : (fnReturn g resTy e false s).1.errors = s.errors) :
    RetV K s (fnReturn g resTy e false s).1 (lowerRet e (effCount s.root.context)) ∧ (fnReturn g resTy e false s).2 = true := by
  -- the evaluation succeeds: what follows it only adds errors
  have hx : (exprM g e s).2.errors = s.errors := by
    unfold fnReturn at he
    cases hm : exprM g e s with
    | mk a s1 =>
      rw [hm] at he
      cases a with
      | none => exact he
      | some r =>
        refine eq_of_ext_len (hm ▸ exprM_ext g e s) ?_
        obtain ⟨Δ, hΔ⟩ := (steps_fnReturnTail g resTy e r s1).errors_ext
        have := congrArg List.length (hΔ.symm.trans he)
        rw [List.length_append] at this
        exact Nat.le.intro this
  obtain ⟨r, s1, hm, -, -⟩ := expr_ok hg hn e s ss hr hx
  have hflag : (fnReturn g resTy e false s).2 = true := by
    unfold fnReturn; rw [hm]
  obtain ⟨s2, hst, hq | ⟨r2, hq⟩⟩ := fnReturn_split g resTy e false s
  · rw [hq] at hflag; cases hflag
  · refine ⟨?_, hflag⟩
    obtain ⟨i, hi, hie, hctx⟩ : ∃ i : Instr, i.isRet = true ∧ effCount [i] = 1 ∧
        (fnReturn g resTy e false s).1.root.context = s2.root.context ++ [i] := by
      rw [hq]
      cases s2.cur.manualReturn
      · exact ⟨.fnReturn r2, rfl, rfl, rfl⟩
      · exact ⟨.fnReturnWithLabel r2, rfl, rfl, rfl⟩
    -- the effect count of the expression part, from the reading of the whole
    have hc2 : effCount s2.root.context = effCount s.root.context + e.calls := by
      have h1 := eff_of_drel (den_fnReturn hg hn resTy e false s ss hr he)
      rw [cnt_ret, ← eff_of_drel hr, hctx, effCount_append, hie, ← Nat.add_assoc] at h1
      exact Nat.add_right_cancel h1
    exact cps_ret_seg hst e.calls hc2 i hi hie _ hctx

theorem cond_shape (hg : GlobRel g rg) (hn : GNames g) (c : IfCond) (lb le ln : Name) (isElse : Bool) (s : St) (ss : SpecSt)
    (hr : DRel g R s ss) (he : (ifCondCalc g c lb le ln isElse s).errors = s.errors) :
    ∃ s1 br, ESteps s s1 ∧ ifCondCalc g c lb le ln isElse s = s1.push br ∧
      br.targets = [lb, if isElse then le else ln] ∧ br.isRet = false ∧ br.isEffect = false ∧
      effCount s1.root.context = effCount s.root.context + c.calls := by
  unfold ifCondCalc at he ⊢
  cases c with
  | single e =>
    dsimp only at he ⊢
    have hx : (exprM g e s).2.errors = s.errors := by
      cases hm : exprM g e s with
      | mk a s1 => rw [hm] at he; cases a <;> exact he
    obtain ⟨r, s1, hm, hst, hc⟩ := expr_ok hg hn e s ss hr hx
    rw [hm]
    exact ⟨s1, _, hst, rfl, rfl, rfl, rfl, hc⟩
  | logic lc =>
    dsimp only at he ⊢
    cases hq : condExprM g lc s with
    | mk q s1 =>
      rw [hq] at he
      obtain ⟨t1, _⟩ := den_cond hg hn ss lc s q s1 hq hr.scope he
      have hst : ESteps s s1 := by have := esteps_condExprM g lc s; rwa [hq] at this
      have hc := eff_trans hr t1
      rw [ce_specLogic] at hc
      exact ⟨s1, _, hst, rfl, rfl, rfl, rfl, hc⟩

end leaves

theorem ctx_push (i : Instr) (s : St) : (s.push i).root.context = s.root.context ++ [i] := rfl

theorem ctx_pushVia (k : Nat) (i : Instr) (s : St) : (s.pushVia k i).root.context = s.root.context ++ [i] := by
  unfold St.pushVia St.push St.mapFrames St.mapCur
  cases s.inner <;> rfl

theorem ctx_leave (s : St) : s.leave.2.root.context = s.root.context := (root_leave_fields s).1

theorem ctx_ifLabels (le : Option Name) (s : St) : (ifLabels le s).2.2.2.root.context = s.root.context := by
  unfold ifLabels
  dsimp only
  cases le <;> rfl

theorem ctx_ifAfterBody (isElse r : Bool) (lElse lEnd : Name) (s : St) :
    (ifAfterBody isElse r lElse lEnd s).2.root.context =
      s.root.context ++ ((if r then [] else [Instr.jumpTo lEnd]) ++ (if isElse then [Instr.setLabel lElse] else [])) := by
  unfold ifAfterBody
  dsimp only
  rw [ctx_leave]
  cases r <;> cases isElse <;> simp [ctx_push]

theorem ctx_ifAfterElse (k : Nat) (r : Bool) (lEnd : Name) (s : St) :
    (ifAfterElse k r lEnd s).root.context = s.root.context ++ (if r then [] else [Instr.jumpTo lEnd]) := by
  unfold ifAfterElse
  dsimp only
  cases r
  · simp only [Bool.false_eq_true, if_false]; rw [ctx_pushVia, ctx_leave]
  · simp only [if_true]; rw [ctx_leave]; simp

theorem ctx_ifEpilogue (k : Nat) (le : Option Name) (lEnd : Name) (s : St) :
    (ifEpilogue k le lEnd s).root.context = s.root.context ++ (if le.isSome then [] else [Instr.setLabel lEnd]) := by
  unfold ifEpilogue
  cases le
  · simp only [Option.isSome_none, Bool.false_eq_true, if_false]; rw [ctx_pushVia]
  · simp

theorem ctx_loopPrologue (s : St) :
    (loopPrologue s).2.2.root.context = s.root.context ++ [Instr.jumpTo (loopPrologue s).1, Instr.setLabel (loopPrologue s).1] := by
  unfold loopPrologue
  dsimp only
  rw [ctx_push, ctx_push]
  simp [St.probeLabel, St.enter, St.mapFrames]

theorem ctx_loopEpilogue (r : Bool) (lb le : Name) (s : St) :
    (loopEpilogue r lb le s).root.context = s.root.context ++ (if r then [] else [Instr.jumpTo lb, Instr.setLabel le]) := by
  unfold loopEpilogue
  dsimp only
  rw [ctx_leave]
  cases r <;> simp [ctx_push]

theorem forbidden_flags (rc bc cc : Bool) (s : St) (h : (forbidden rc bc cc s).errors = s.errors) :
    rc = false ∧ bc = false ∧ cc = false := by
  cases rc <;> cases bc <;> cases cc <;> simp [forbidden, St.addErr] at h ⊢

theorem endsRet_append (a b : List Flow) (h : endsRet b = true) : endsRet (a ++ b) = true := by
  induction a with
  | nil => exact h
  | cons x xs ih =>
    rw [List.cons_append]
    cases hb : xs ++ b with
    | nil => rw [hb] at ih; cases ih
    | cons y ys => rw [hb] at ih; cases x <;> exact ih

theorem endsRet_lowerRet (e : Expr) (n : Nat) : endsRet (lowerRet e n).1 = true :=
  endsRet_append _ _ rfl

section control
variable {g : Globals} {R : Ty} {rg : RGlobals}

theorem prologue_shape (hg : GlobRel g rg) (hn : GNames g) (cond : IfCond) (dup isElse : Bool)
    (le : Option Name) (s : St) (ss : SpecSt) (hr : DRel g R s ss)
    (he : (ifPrologue g cond dup isElse le s).2.2.errors = s.errors) :
    ∃ seg br lBegin,
      (ifPrologue g cond dup isElse le s).2.2.root.context = s.root.context ++ (seg ++ [br, Instr.setLabel lBegin]) ∧
      (∀ i ∈ seg, i.straight = true) ∧ effCount seg = cond.calls ∧
      br.targets = [lBegin, if isElse then (ifPrologue g cond dup isElse le s).1 else (ifPrologue g cond dup isElse le s).2.1] ∧
      br.isRet = false ∧ br.isEffect = false ∧
      (∀ l0, le = some l0 → (ifPrologue g cond dup isElse le s).2.1 = l0) := by
  cases dup with
  | true =>
    -- the diagnostic for a duplicated else part is an error
    have x := (steps_ifPrologue g cond false isElse le (s.addErr .ifElseDuplicated "if-condition".toList 1 0)).errors_ext
    exact nomatch List.append_right_eq_self.mp (chain2 ⟨_, rfl⟩ x he).1
  | false =>
    unfold ifPrologue at he ⊢
    simp only [Bool.false_eq_true, if_false] at he ⊢
    have q1 := quiet_ifLabels le s
    have f1 := ifLabels_fields le s
    have c1 := ctx_ifLabels le s
    have d1 := dts_ifLabels le s
    have hl0 : ∀ l0, le = some l0 → (ifLabels le s).2.2.1 = l0 := by
      intro l0 h; subst h; rfl
    generalize ifLabels le s = p at he q1 f1 c1 d1 hl0 ⊢
    obtain ⟨lBegin, lElse, lEnd, s1⟩ := p
    dsimp only at he q1 f1 c1 d1 hl0 ⊢
    rw [(push_fields _ _).1] at he
    have e2 := he.trans f1.1.symm
    have r1 : DRel g R s1 ss.push := drel_enter hr q1 f1.2.1 d1
    obtain ⟨s2, br, hst, hcalc, hbr, hnr, hne, hcnt⟩ := cond_shape hg hn cond lBegin lElse lEnd isElse s1 ss.push r1 e2
    obtain ⟨seg, hseg, hstr⟩ := esteps_seg hst
    refine ⟨seg, br, lBegin, ?_, hstr, ?_, hbr, hnr, hne, hl0⟩
    · rw [ctx_push, hcalc, ctx_push, hseg, c1, List.append_assoc, List.append_assoc]; rfl
    · rw [hseg, effCount_append] at hcnt; exact Nat.add_left_cancel hcnt

end control

/-- an `if` that owns its end label is laid out in front of what follows it; one that was handed the
label leaves by a jump to it -/
def IfLay (K : LoopK) (le : Option Name) (s s' : St) (p : List Flow × Nat) : Prop :=
  (le = none → CPSv K s s' p) ∧ (∀ l0, le = some l0 → PassV K s s' p l0)

/-- an `if` whose code up to its end label is `code` -/
theorem lay_ifEnd {K : LoopK} {s s5 : St} {fl : List Flow} {code : List Instr} {m : Nat} (k : Nat) (le : Option Name) (lEnd : Name)
    (hctx : s5.root.context = s.root.context ++ code) (hm : m = effCount s.root.context + effCount code)
    (hown : ∀ rest c e, Lay K (effCount s.root.context + effCount code) rest c e →
      Lay K (effCount s.root.context) (fl ++ rest) (code ++ Instr.setLabel lEnd :: c) e)
    (hpass : Lay K (effCount s.root.context) fl code (.jump lEnd))
    (hl0 : ∀ l0, le = some l0 → lEnd = l0) : IfLay K le s (ifEpilogue k le lEnd s5) (fl, m) := by
  constructor
  · rintro rfl
    refine ⟨code ++ [Instr.setLabel lEnd], by rw [ctx_ifEpilogue, hctx, List.append_assoc]; rfl,
      by rw [effCount_append, eff_label]; exact hm, fun rest c e h => ?_⟩
    rw [effCount_append, eff_label] at h
    rw [List.append_assoc]
    exact hown rest c e h
  · rintro l0 rfl
    obtain rfl := hl0 _ rfl
    exact ⟨code, by rw [ctx_ifEpilogue, hctx]; exact List.append_nil _, hm, hpass⟩

/-- the shapes of an `if`, assembled from what its parts emit: the prologue (`c1`), the then-body (`hB`),
the jump that ends it and the else label (`c3`), and the else part `hE` if there is one (an else body with its
jump, or an else-if chain that was handed the end label) -/
theorem lay_ifShape {K : LoopK} {s s1 s2 s3 s5 : St} {r : Bool} {seg0 : List Instr} {br : Instr} {lBegin lElse lEnd : Name}
    (fb fe : Nat → List Flow × Nat) (k : Nat) (le : Option Name) (isElse : Bool)
    (c1 : s1.root.context = s.root.context ++ (seg0 ++ [br, Instr.setLabel lBegin]))
    (hstr : ∀ i ∈ seg0, i.straight = true) (hbr : br.targets = [lBegin, if isElse then lElse else lEnd])
    (hnr : br.isRet = false) (hne : br.isEffect = false)
    (hB : BodyJ K s1 (s2, r) (fb (effCount s1.root.context)) lEnd)
    (c3 : s3.root.context = s2.root.context ++
      ((if r then [] else [Instr.jumpTo lEnd]) ++ (if isElse then [Instr.setLabel lElse] else [])))
    (hE : if isElse then PassV K s3 s5 (fe (effCount s3.root.context)) lEnd else s5 = s3 ∧ ∀ n, fe n = ([], n))
    (hl0 : ∀ l0, le = some l0 → lEnd = l0) :
    IfLay K le s (ifEpilogue k le lEnd s5) (iteFlow (effCount seg0) fb fe (effCount s.root.context)) := by
  have hA : effCount (seg0 ++ [br, Instr.setLabel lBegin]) = effCount seg0 := by
    rw [effCount_append, effCount_cons, hne]; rfl
  -- the then-part with the jump that ends it, seen from `s`
  obtain ⟨segB, cB, nB, lB⟩ := hB
  have hJ := eff_ite_jump r lEnd
  generalize (if r then [] else [Instr.jumpTo lEnd]) = J at lB c3 hJ
  rw [c1, effCount_append, hA] at nB lB
  replace nB : (fb (effCount s.root.context + effCount seg0)).2 =
      effCount s.root.context + effCount seg0 + effCount (segB ++ J) := by
    rw [nB, effCount_append, hJ]; rfl
  replace c3 : s3.root.context = s.root.context ++ (seg0 ++ [br, Instr.setLabel lBegin] ++ (segB ++ J)) ++
      (if isElse then [Instr.setLabel lElse] else []) := by
    rw [c3, show s2.root.context = _ from cB, c1]; simp only [List.append_assoc]
  generalize segB ++ J = tc at lB nB c3
  unfold iteFlow
  cases isElse with
  | false =>
    obtain ⟨rfl, hfe⟩ := hE
    rw [hfe]
    have hcode : effCount (seg0 ++ [br, Instr.setLabel lBegin] ++ tc) = effCount seg0 + effCount tc := by
      rw [effCount_append, hA]
    refine lay_ifEnd (code := seg0 ++ [br, Instr.setLabel lBegin] ++ tc) k le lEnd
      (c3.trans (List.append_nil _)) (by rw [nB, hcode, Nat.add_assoc]) (fun rest c e h => ?_) ?_ hl0
    · rw [hcode, ← Nat.add_assoc] at h
      have := lay_seg seg0 _ hstr (Lay.iteOwn br lBegin lEnd hbr hnr hne lB h)
      simpa only [List.append_assoc, List.cons_append, List.nil_append] using this
    · have := lay_seg seg0 _ hstr (Lay.itePass br lBegin lEnd hbr hnr hne lB)
      simpa only [List.append_assoc, List.cons_append, List.nil_append] using this
  | true =>
    obtain ⟨ec, cE, nE, lE⟩ := hE
    rw [if_pos rfl] at c3
    have hn3 : effCount s3.root.context = (fb (effCount s.root.context + effCount seg0)).2 := by
      simp only [c3, nB, effCount_append, hA, eff_label, Nat.add_zero, Nat.add_assoc]
    rw [hn3] at nE lE
    have lE' : Lay K (effCount s.root.context + effCount seg0 + effCount tc)
        (fe (fb (effCount s.root.context + effCount seg0)).2).1 ec (.jump lEnd) := by rw [← nB]; exact lE
    have hcode : effCount (seg0 ++ [br, Instr.setLabel lBegin] ++ tc ++ [Instr.setLabel lElse] ++ ec) =
        effCount seg0 + effCount tc + effCount ec := by
      rw [effCount_append, effCount_append, effCount_append, hA]; rfl
    refine lay_ifEnd (code := seg0 ++ [br, Instr.setLabel lBegin] ++ tc ++ [Instr.setLabel lElse] ++ ec) k le lEnd
      (by rw [cE, c3]; simp only [List.append_assoc]) (by rw [nE, nB, hcode, Nat.add_assoc, Nat.add_assoc, Nat.add_assoc])
      (fun rest c e h => ?_) ?_ hl0
    · rw [hcode, ← Nat.add_assoc, ← Nat.add_assoc] at h
      have := lay_seg seg0 _ hstr (Lay.iteElseOwn br lBegin lElse lEnd hbr hnr hne lB lE' h)
      simpa only [List.append_assoc, List.cons_append, List.nil_append] using this
    · have := lay_seg seg0 _ hstr (Lay.iteElsePass br lBegin lElse lEnd hbr hnr hne lB lE')
      simpa only [List.append_assoc, List.cons_append, List.nil_append] using this

/-- a loop: the prologue (`c1`), the body, the epilogue (`c3`) with the jump back and the end label unless
the body returned (`r`), in which case the body's flow ends in a return and the end label is not set:
then no `break` may target it (finding F3) -/
theorem lay_loop {K : LoopK} {s s1 s2 s3 : St} {lb le : Name} {r : Bool} {p : List Flow × Nat}
    (c1 : s1.root.context = s.root.context ++ [Instr.jumpTo lb, Instr.setLabel lb])
    (hb : CPSv (some (lb, le, !r)) s1 s2 p) (hends : r = true → endsRet p.1 = true)
    (c3 : s3.root.context = s2.root.context ++ (if r then [] else [Instr.jumpTo lb, Instr.setLabel le])) :
    CPSv K s s3 ([Flow.loop p.1], p.2) := by
  obtain ⟨bc, cb, nb, lbody⟩ := hb
  have hn1 : effCount s1.root.context = effCount s.root.context := by rw [c1, effCount_append]; rfl
  rw [hn1] at nb lbody
  have h0 : effCount [Instr.jumpTo lb, Instr.setLabel lb] = 0 := rfl
  have htail : effCount (if r then [] else [Instr.jumpTo lb, Instr.setLabel le]) = 0 := by cases r <;> rfl
  refine ⟨[Instr.jumpTo lb, Instr.setLabel lb] ++ bc ++ (if r then [] else [Instr.jumpTo lb, Instr.setLabel le]),
    by rw [c3, cb, c1]; simp only [List.append_assoc], ?_, fun rest code e hrest => ?_⟩
  · rw [nb, effCount_append, effCount_append, htail, h0, Nat.zero_add, Nat.add_zero]
  · rw [effCount_append, effCount_append, htail, h0, Nat.zero_add, Nat.add_zero] at hrest
    have hbody := lbody [] [] .fall (Lay.nil _ _)
    rw [List.append_nil, List.append_nil] at hbody
    have := Lay.loop (K := K) lb le (!r) hbody (tail := if r then [] else [Instr.jumpTo lb, Instr.setLabel le])
      (by cases r with
        | false => exact .inl rfl
        | true => exact .inr ⟨rfl, hends rfl, rfl⟩) (c := code) (e := e) (rest := rest) hrest
    simpa only [List.append_assoc, List.cons_append, List.nil_append] using this

/-- `loop_statement` around a statement loop `k` that lays out `bf`; `ret`: the loop has a loop-level
return, `brk`: a `break` targets it — outside F3 not both -/
theorem lay_loopWrap (k : Name → Name → Bool → Bool → Bool → St → St × Bool)
    (bf : Nat → List Flow × Nat) (ret brk : Bool) (K : LoopK)
    (hlay : ∀ lb le b s ss, DRel g R s ss → (k lb le false false false s).1.errors = s.errors → (brk = true → b = true) →
      CPSv (some (lb, le, b)) s (k lb le false false false s).1 (bf (effCount s.root.context)) ∧
      ((k lb le false false false s).2 = true → endsRet (bf (effCount s.root.context)).1 = true))
    (hret : ∀ lb le s, (k lb le false false false s).2 = true → ret = true)
    (hf3 : (ret && brk) = false)
    (s : St) (ss : SpecSt) (hr : DRel g R s ss) (he : (loopWrap k s).errors = s.errors) :
    CPSv K s (loopWrap k s) ([Flow.loop (bf (effCount s.root.context)).1], (bf (effCount s.root.context)).2) := by
  unfold loopWrap at he ⊢
  dsimp only at he ⊢
  have q1 := quiet_loopPrologue s
  have f1 := loopPrologue_fields s
  have c1 := ctx_loopPrologue s
  have d1 := dts_loopPrologue s
  generalize loopPrologue s = p at he q1 f1 c1 d1 ⊢
  obtain ⟨lb, le, s1⟩ := p
  dsimp only at he q1 f1 c1 d1 ⊢
  have hl := fun b => hlay lb le b s1 ss.push (drel_enter hr q1 f1.2.1 d1)
  have hrt := hret lb le s1
  generalize k lb le false false false s1 = q at he hl hrt ⊢
  obtain ⟨s2, r⟩ := q
  dsimp only at he hl hrt ⊢
  rw [(quiet_loopEpilogue r lb le s2).errors, ← f1.1] at he
  -- a loop that returns has no `break` (outside F3), so the flag `!r` serves every `break` there is
  obtain ⟨hbody, hends⟩ := hl (!r) he (fun hbk => by
    cases r with
    | false => rfl
    | true => rw [hrt rfl, hbk] at hf3; cases hf3)
  have hn1 : effCount s1.root.context = effCount s.root.context := by rw [c1, effCount_append]; rfl
  rw [hn1] at hbody hends
  exact lay_loop c1 hbody hends (ctx_loopEpilogue r lb le s2)

theorem forbidden_fff (s : St) : forbidden false false false s = s := rfl

/-- once a return, `break` or `continue` was seen, the next round reports an error -/
theorem no_more_after {s sf : St} (rc bc cc : Bool) (h : rc = true ∨ bc = true ∨ cc = true)
    (x : ∃ Δ, sf.errors = (forbidden rc bc cc s).errors ++ Δ) : sf.errors ≠ s.errors := by
  intro heq
  obtain ⟨rfl, rfl, rfl⟩ := forbidden_flags rc bc cc s (chain2 (esteps_forbidden rc bc cc s).errors_ext x heq).1
  simp at h

theorem nStmt_flags {g : Globals} {K : BodyK} {st : NStmt} {rc bc cc : Bool} {s : St}
    (he : (nStmt g K st ⟨rc, bc, cc⟩ s).1.errors = s.errors) : rc = false ∧ bc = false ∧ cc = false := by
  have x := (steps_nStmt' g K st ⟨false, false, false⟩ (forbidden rc bc cc s)).errors_ext
  rw [← nStmt_forbidden g K st ⟨rc, bc, cc⟩ s] at x
  exact forbidden_flags rc bc cc s (chain2 (esteps_forbidden rc bc cc s).errors_ext x he).1

theorem drel_jump {g : Globals} {R : Ty} {s : St} {ss : SpecSt} (hr : DRel g R s ss) (l : Name) :
    DRel g R (s.push (.jumpTo l)) ss :=
  drel_same hr (quiet_push _ (skipped_jumpTo _) _) (vals_push _ _) (dts_push_plain _ _ rfl)

theorem retv_jump {K : LoopK} (s : St) (l : Name) {fl : Flow}
    (h : ∀ rest code e, Lay K (effCount s.root.context) (fl :: rest) (.jumpTo l :: code) e) :
    RetV K s (s.push (.jumpTo l)) ([fl], effCount s.root.context) :=
  ⟨[.jumpTo l], rfl, rfl, h⟩

def LayIf (g : Globals) (R : Ty) (i : IfStmt) : Prop :=
  ∀ (le : Option Name) (ll : Option (Name × Name)) (b : Bool),
    IfStmt.anaOK ll.isSome i = true → (i.hasBrk = true → b = true) → i.f3 = false →
    ∀ s ss, DRel g R s ss → (ifCondition g i le ll s).errors = s.errors →
      IfLay (KOf ll b) le s (ifCondition g i le ll s) (IfStmt.lower true i (effCount s.root.context))

def LayBodies (g : Globals) (R : Ty) (bd : IfBodies) : Prop :=
  ∀ (lEnd : Name) (ll : Option (Name × Name)) (b : Bool),
    IfBodies.anaOK ll.isSome bd = true → (bd.hasBrk = true → b = true) → bd.f3 = false →
    ∀ s ss, DRel g R s ss → (ifBodies g bd lEnd ll s).1.errors = s.errors →
      BodyJ (KOf ll b) s (ifBodies g bd lEnd ll s) (IfBodies.lower true bd (effCount s.root.context)) lEnd

/-- a loop body outside F3 is laid out in front of what follows it; if it ends in a return, so does its
flow.  `b`: the end label of the loop is available for `break` -/
def LayLoop (g : Globals) (R : Ty) (l : List LoopStmt) : Prop :=
  ∀ (lb le : Name) (b rc bc cc : Bool),
    LoopStmt.anaOKL l = true → (LoopStmt.nestedBrkL l = true → b = true) → LoopStmt.f3L l = false → (l = [] → rc = false) →
    ∀ s ss, DRel g R s ss → (loopBody g l lb le rc bc cc s).1.errors = s.errors →
      CPSv (some (lb, le, b)) s (loopBody g l lb le rc bc cc s).1 (LoopStmt.lowerL true l (effCount s.root.context)) ∧
      ((loopBody g l lb le rc bc cc s).2 = true → endsRet (LoopStmt.lowerL true l (effCount s.root.context)).1 = true)

/-- what one statement of a nested body contributes to the layout; `lEnd`: the end label the body hands
to a nested `if`, `f'`: the flags after the statement -/
inductive StmtLay (K : LoopK) (lEnd : Option Name) (isIf : Bool) (s s1 : St) (f f' : Flags) (p : List Flow × Nat) : Prop
  /-- it is laid out in front of the rest of the body -/
  | seq (h : isIf = false ∨ lEnd = none) (hf : f' = f) (c : CPSv K s s1 p)
  /-- finding F2: a nested `if` that was handed the end label of the body leaves by a jump to it -/
  | pass (l0 : Name) (hi : isIf = true) (hl : lEnd = some l0) (hf : f' = f) (c : PassV K s s1 p l0)
  /-- return, break, continue: the rest of the body is never reached -/
  | term (hi : isIf = false) (c : RetV K s s1 p) (hr : f'.rc = true → endsRet p.1 = true)

def jumpOKN (ll : Option (Name × Name)) (st : NStmt) : Prop := st = .brk ∨ st = .cont → ll.isSome = true

section stmt
variable {g : Globals} {R : Ty} {rg : RGlobals}

/-- one round of a body loop that reports no error: no terminator was seen before, the T2 relation is
kept, and the statement is laid out (`hsub`: the construct nested in it is) -/
theorem lay_nStmt (hg : GlobRel g rg) (hn : GNames g) (K : BodyK) (b : Bool) (st : NStmt) (rc bc cc : Bool)
    (hok : anaOKN K.ll.isSome st = true) (hbrk : hasBrkN st = true → b = true) (hf3 : f3N st = false)
    (hj : jumpOKN K.ll st)
    (hsub : st.Sub (LayIf g R) (LayLoop g R))
    (s : St) (ss : SpecSt) (hr : DRel g R s ss) (he : (nStmt g K st ⟨rc, bc, cc⟩ s).1.errors = s.errors) :
    (rc = false ∧ bc = false ∧ cc = false) ∧ DRel g R (nStmt g K st ⟨rc, bc, cc⟩ s).1 (specN false rg st ss) ∧
    StmtLay (KOf K.ll b) K.lEnd st.isIf s (nStmt g K st ⟨rc, bc, cc⟩ s).1 ⟨rc, bc, cc⟩ (nStmt g K st ⟨rc, bc, cc⟩ s).2
      (lowerN true st (effCount s.root.context)) := by
  obtain ⟨rfl, rfl, rfl⟩ := nStmt_flags he
  refine ⟨⟨rfl, rfl, rfl⟩, ?_⟩
  unfold nStmt at he ⊢
  dsimp only [forbidden_fff] at he ⊢
  cases st with
  | letB bd =>
    have hd := den_let hg hn bd s ss hr he
    exact ⟨hd, .seq (.inl rfl) rfl (cps_straight (esteps_letBinding g bd s) hr hd _ (cnt_let rg bd ss))⟩
  | bind bd =>
    have hd := den_bind hg hn bd s ss hr he
    exact ⟨hd, .seq (.inl rfl) rfl (cps_straight (esteps_binding g bd s) hr hd _ (cnt_bind bd ss))⟩
  | call c =>
    have hd := den_callS hg hn c s ss hr he
    exact ⟨hd, .seq (.inl rfl) rfl (cps_straight (esteps_callStmt g c s) hr hd _ (cnt_callS c ss))⟩
  | ifS i =>
    obtain ⟨hc, hp⟩ := hsub K.lEnd K.ll b hok hbrk hf3 s ss hr he
    refine ⟨(den_ifCondition hg hn i K.lEnd K.ll hok s ss hr he).1, ?_⟩
    rcases Option.eq_none_or_eq_some K.lEnd with hK | ⟨l0, hK⟩
    · exact .seq (.inr hK) rfl (hc hK)
    · exact .pass l0 rfl hK rfl (hp l0 hK)
  | loop l =>
    rw [f3N, Bool.or_eq_false_iff] at hf3
    refine ⟨(den_loopWrap _ (specLoopBody false rg l) (steps_loopBody g l)
      (fun lb le s ss => den_loopBody hg hn l lb le false false false hok s ss) s ss hr he).1, .seq (.inl rfl) rfl ?_⟩
    exact lay_loopWrap (loopBody g l) (LoopStmt.lowerL true l) (LoopStmt.hasRetL l) (LoopStmt.nestedBrkL l) _
      (fun lb le b' s ss d e hb' => hsub lb le b' false false false hok hb' hf3.2 (fun _ => rfl) s ss d e)
      (fun lb le s h => (ret_loopBody g l lb le false false false s h).resolve_left (by simp))
      hf3.1 s ss hr he
  | ret e =>
    exact ⟨den_nestedReturn hg hn e s ss hr he,
      .term rfl (cps_jret hg hn _ e s ss hr he).1 (fun _ => endsRet_lowerRet e _)⟩
  | brk =>
    obtain ⟨⟨lb, le⟩, hll⟩ := Option.isSome_iff_exists.mp (hj (.inl rfl))
    obtain rfl := hbrk rfl
    rw [hll]
    exact ⟨drel_jump hr le, .term rfl (retv_jump s le fun rest code e => Lay.brk _ rest lb le code e) nofun⟩
  | cont =>
    obtain ⟨⟨lb, le⟩, hll⟩ := Option.isSome_iff_exists.mp (hj (.inr rfl))
    rw [hll]
    exact ⟨drel_jump hr lb, .term rfl (retv_jump s lb fun rest code e => Lay.cont _ rest lb le b code e) nofun⟩

end stmt

section nested
variable {g : Globals} {R : Ty} {rg : RGlobals}

theorem cpsl_cons {K : LoopK} {s s1 s2 : St} {r : Bool} {p1 p2 : List Flow × Nat} (c : CPSv K s s1 p1)
    (h : CPSv K s1 s2 p2 ∧ (r = true → endsRet p2.1 = true)) :
    CPSv K s s2 (p1.1 ++ p2.1, p2.2) ∧ (r = true → endsRet (p1.1 ++ p2.1) = true) :=
  ⟨c.trans h.1, fun hr => endsRet_append _ _ (h.2 hr)⟩

/-- one round of the loop over an if / else body, then the rest `res` of the loop, which lays out `p2`
(`ih`); `nil`: there is no rest -/
theorem bodyj_step {K : LoopK} {lEnd : Name} {isIf : Bool} {s s1 : St} {f' : Flags} {res : St × Bool} {p1 : List Flow × Nat}
    {f : Flags} (p2 : Nat → List Flow × Nat) (nil : Bool) (hrc : f.rc = false)
    (hl : StmtLay K (some lEnd) isIf s s1 f f' p1)
    (ih : (nil = true → f'.rc = false) → BodyJ K s1 res (p2 (effCount s1.root.context)) lEnd)
    (hnil : nil = true → res = (s1, f'.rc) ∧ ∀ n, p2 n = ([], n)) :
    BodyJ K s res (if isIf && true && !nil then p1.1 else p1.1 ++ (p2 p1.2).1, (p2 p1.2).2) lEnd := by
  cases hl with
  | seq hI hf c =>
    rw [hI.resolve_right nofun, ← c.eff]
    exact c.thenBody (ih fun _ => hf ▸ hrc)
  | pass l0 hI hl hf p =>
    -- F2: whatever the rest emits is dead
    cases hl
    have hd := bodyj_dead p (ih fun _ => hf ▸ hrc)
    rw [hI, ← p.eff]
    cases nil with
    | false => exact hd
    | true => simpa only [(hnil rfl).2, List.append_nil, ite_self] using hd
  | term hI c _ =>
    cases nil with
    | false => rw [hI, ← c.cps.eff]; exact c.cps.thenBody (ih nofun)
    | true =>
      simp only [(hnil rfl).1, (hnil rfl).2, List.append_nil, ite_self]
      exact c.body

theorem cpsl_step {K : LoopK} {isIf : Bool} {s s1 : St} {f' : Flags} {res : St × Bool} {p1 : List Flow × Nat}
    {f : Flags} (p2 : Nat → List Flow × Nat) (nil : Bool) (hrc : f.rc = false)
    (hl : StmtLay K none isIf s s1 f f' p1)
    (ih : (nil = true → f'.rc = false) → CPSv K s1 res.1 (p2 (effCount s1.root.context)) ∧
      (res.2 = true → endsRet (p2 (effCount s1.root.context)).1 = true))
    (hnil : nil = true → res = (s1, f'.rc) ∧ ∀ n, p2 n = ([], n)) :
    CPSv K s res.1 (p1.1 ++ (p2 p1.2).1, (p2 p1.2).2) ∧ (res.2 = true → endsRet (p1.1 ++ (p2 p1.2).1) = true) := by
  cases hl with
  | seq _ hf c => rw [← c.eff]; exact cpsl_cons c (ih fun _ => hf ▸ hrc)
  | pass l0 _ hl => cases hl
  | term _ c hends =>
    cases nil with
    | false => rw [← c.cps.eff]; exact cpsl_cons c.cps (ih nofun)
    | true =>
      simp only [(hnil rfl).1, (hnil rfl).2, List.append_nil]
      exact ⟨c.cps, hends⟩

theorem lay_if (hg : GlobRel g rg) (hn : GNames g) (cond : IfCond) (body : IfBodies) (els : Option IfBodies) (elif : Option IfStmt)
    (hb : LayBodies g R body) (hels : ∀ eb, els = some eb → LayBodies g R eb)
    (helif : ∀ ei, elif = some ei → LayIf g R ei) : LayIf g R (.mk cond body els elif) := by
  intro labelEnd labelLoop b
  intro hok hbrk hf3 s ss hr he
  rw [IfStmt.anaOK_mk, Bool.and_eq_true] at hok
  rw [IfStmt.hasBrk_mk, Bool.or_eq_true, Bool.or_eq_true] at hbrk
  rw [IfStmt.f3_mk, Bool.or_eq_false_iff, Bool.or_eq_false_iff] at hf3
  unfold ifCondition at he ⊢
  dsimp only at he ⊢
  rw [(quiet_ifEpilogue _ _ _ _).errors] at he
  have x1 := (steps_ifPrologue g cond (els.isSome && elif.isSome) (els.isSome || elif.isSome) labelEnd s).errors_ext
  have h1 := den_ifPrologue hg hn cond (els.isSome && elif.isSome) (els.isSome || elif.isSome) labelEnd s ss hr
  have p1 := prologue_shape hg hn cond (els.isSome && elif.isSome) (els.isSome || elif.isSome) labelEnd s ss hr
  generalize ifPrologue g cond (els.isSome && elif.isSome) (els.isSome || elif.isSome) labelEnd s = p at he x1 h1 p1 ⊢
  obtain ⟨lElse, lEnd, s1⟩ := p
  dsimp only at he x1 h1 p1 ⊢
  have x2 := (steps_ifBodies g body lEnd labelLoop s1).errors_ext
  have h2 := den_ifBodies (R := R) hg hn body lEnd labelLoop hok.1 s1 (specIfCond false cond ss.push)
  have l2 := hb lEnd labelLoop b hok.1 (fun h => hbrk (.inl (.inl h))) hf3.1.1 s1
    (specIfCond false cond ss.push)
  generalize ifBodies g body lEnd labelLoop s1 = q at he x2 h2 l2 ⊢
  obtain ⟨s2, r⟩ := q
  dsimp only at he x2 h2 l2 ⊢
  have q3 := quiet_ifAfterBody (els.isSome || elif.isSome) r lElse lEnd s2
  have f3 := ifAfterBody_fields (els.isSome || elif.isSome) r lElse lEnd s2
  have c3 := ctx_ifAfterBody (els.isSome || elif.isSome) r lElse lEnd s2
  have d3 := dts_ifAfterBody (els.isSome || elif.isSome) r lElse lEnd s2
  generalize ifAfterBody (els.isSome || elif.isSome) r lElse lEnd s2 = q3' at he q3 f3 c3 d3 ⊢
  obtain ⟨k, s3⟩ := q3'
  dsimp only at he q3 f3 c3 d3 ⊢
  -- no error anywhere: the else part (whichever it is) only extends the error list
  have hch := chain3 x1 x2 ?_ he
  · obtain ⟨e1, e2, e4⟩ := hch
    obtain ⟨r1, len1⟩ := h1 e1
    obtain ⟨r2, len2⟩ := h2 r1 e2
    obtain ⟨seg0, br, lBegin, c1, hstr, hcnt, hbr, hnr, hne, hl0⟩ := p1 e1
    have hne2 : s2.inner ≠ [] := inner_ne_of_len (by rw [len2, len1])
    have r3 : DRel g R s3 (specBodies false rg body (specIfCond false cond ss.push)).pop :=
      drel_leave r2 q3 (f3 hne2).2.1 (d3 hne2) hne2
    rw [← q3.errors] at e4
    rw [IfStmt.lower_mk, ← hcnt]
    cases els with
    | some eb =>
      dsimp only at e4 ⊢
      rw [(quiet_ifAfterElse _ _ _ _).errors] at e4
      have r3e : DRel g R s3.enter (specBodies false rg body (specIfCond false cond ss.push)).pop.push :=
        drel_enter r3 (quiet_enter s3) (vals_enter s3) (dts_enter s3)
      have hE := (hels eb rfl lEnd labelLoop b hok.2 (fun h => hbrk (.inl (.inr h))) hf3.1.2 s3.enter _ r3e e4).pass
        (ctx_ifAfterElse k _ lEnd _)
      exact lay_ifShape (IfBodies.lower true body) (IfBodies.lower true eb) k labelEnd _ c1 hstr hbr hnr hne
        (l2 r1 e2) c3 hE hl0
    | none =>
      cases elif with
      | some ei =>
        exact lay_ifShape (IfBodies.lower true body) (IfStmt.lower true ei) k labelEnd _ c1 hstr hbr hnr hne
          (l2 r1 e2) c3
          ((helif ei rfl (some lEnd) labelLoop b hok.2 (fun h => hbrk (.inr h)) hf3.2 s3 _ r3 e4).2 lEnd rfl) hl0
      | none =>
        exact lay_ifShape (IfBodies.lower true body) _ k labelEnd _ c1 hstr hbr hnr hne (l2 r1 e2) c3 ⟨rfl, fun _ => rfl⟩ hl0
  · rw [← q3.errors]
    cases els with
    | some eb =>
      dsimp only
      rw [(quiet_ifAfterElse _ _ _ _).errors]
      exact (steps_ifBodies g eb lEnd labelLoop s3.enter).errors_ext
    | none =>
      cases elif with
      | some ei => exact (steps_ifCondition g ei (some lEnd) labelLoop s3).errors_ext
      | none => exact ⟨[], (List.append_nil _).symm⟩

theorem lay_ind (hg : GlobRel g rg) (hn : GNames g) : BodyInd (LayIf g R) (LayBodies g R)
    (fun l => ∀ (lEnd : Name) (ll : Option (Name × Name)) (b rc : Bool),
      IfBodyStmt.anaOKL ll.isSome l = true → (IfBodyStmt.hasBrkL l = true → b = true) →
      IfBodyStmt.f3L l = false → (l = [] → rc = false) →
      ∀ s ss, DRel g R s ss → (ifBody g l lEnd ll rc s).1.errors = s.errors →
        BodyJ (KOf ll b) s (ifBody g l lEnd ll rc s) (IfBodyStmt.lowerL true l (effCount s.root.context)) lEnd)
    (fun l => ∀ (lEnd lb le : Name) (b rc bc cc : Bool),
      IfLoopStmt.anaOKL l = true → (IfLoopStmt.hasBrkL l = true → b = true) →
      IfLoopStmt.f3L l = false → (l = [] → rc = false) →
      ∀ s ss, DRel g R s ss → (ifLoopBody g l lEnd lb le rc bc cc s).1.errors = s.errors →
        BodyJ (some (lb, le, b)) s (ifLoopBody g l lEnd lb le rc bc cc s) (IfLoopStmt.lowerL true l (effCount s.root.context)) lEnd)
    (LayLoop g R) where
  ifS cond body els elif := lay_if hg hn cond body els elif
  ifb l h lEnd ll b hok hbrk hf3 s ss hr he := h lEnd ll b false hok hbrk hf3 (fun _ => rfl) s ss hr he
  loopb l h lEnd ll b hok hbrk hf3 s ss hr he := by
    cases ll with
    | none => cases hok
    | some p =>
      obtain ⟨lb, le⟩ := p
      exact h lEnd lb le b false false false hok hbrk hf3 (fun _ => rfl) s ss hr he
  ifNil lEnd ll b rc _ _ _ hrc s ss hr _ := by
    obtain rfl := hrc rfl
    exact ⟨[], (List.append_nil _).symm, rfl, Lay.jmp _ _ lEnd []⟩
  ifCons st tl hs ht lEnd ll b rc hok hbrk hf3 _ s ss hr he := by
    rw [IfBodyStmt.anaOKL_cons, Bool.and_eq_true] at hok
    rw [IfBodyStmt.hasBrkL_cons, Bool.or_eq_true] at hbrk
    rw [IfBodyStmt.f3L_cons, Bool.or_eq_false_iff] at hf3
    rw [ifBody_cons] at he ⊢
    rw [IfBodyStmt.lowerL_cons]
    have e := chain2 (steps_nStmt' g _ st.toN _ s).errors_ext (steps_ifBody g tl lEnd ll _ _).errors_ext he
    have hst := lay_nStmt hg hn ⟨some lEnd, ll⟩ b st.toN rc false false hok.1 (fun h => hbrk (.inl h)) hf3.1
      (by cases st <;> nofun) hs s ss hr e.1
    exact bodyj_step (IfBodyStmt.lowerL true tl) tl.isEmpty hst.1.1 hst.2.2
      (fun hnil => ht lEnd ll b _ hok.2 (fun h => hbrk (.inr h)) hf3.2 (fun h => hnil (h ▸ rfl)) _ _ hst.2.1 e.2)
      (fun h => by cases tl with | nil => exact ⟨rfl, fun _ => rfl⟩ | cons _ _ => cases h)
  ifLoopNil lEnd lb le b rc bc cc _ _ _ hrc s ss hr _ := by
    obtain rfl := hrc rfl
    exact ⟨[], (List.append_nil _).symm, rfl, Lay.jmp _ _ lEnd []⟩
  ifLoopCons st tl hs ht lEnd lb le b rc bc cc hok hbrk hf3 _ s ss hr he := by
    rw [IfLoopStmt.anaOKL_cons, Bool.and_eq_true] at hok
    rw [IfLoopStmt.hasBrkL_cons, Bool.or_eq_true] at hbrk
    rw [IfLoopStmt.f3L_cons, Bool.or_eq_false_iff] at hf3
    rw [ifLoopBody_cons] at he ⊢
    rw [IfLoopStmt.lowerL_cons]
    have e := chain2 (steps_nStmt' g _ st.toN _ s).errors_ext (steps_ifLoopBody g tl lEnd lb le _ _ _ _).errors_ext he
    have hst := lay_nStmt hg hn ⟨some lEnd, some (lb, le)⟩ b st.toN rc bc cc hok.1 (fun h => hbrk (.inl h)) hf3.1
      (fun _ => rfl) hs s ss hr e.1
    exact bodyj_step (IfLoopStmt.lowerL true tl) tl.isEmpty hst.1.1 hst.2.2
      (fun hnil => ht lEnd lb le b _ _ _ hok.2 (fun h => hbrk (.inr h)) hf3.2 (fun h => hnil (h ▸ rfl)) _ _ hst.2.1 e.2)
      (fun h => by cases tl with | nil => exact ⟨rfl, fun _ => rfl⟩ | cons _ _ => cases h)
  loopNil lb le b rc bc cc _ _ _ hrc s ss hr _ := by
    obtain rfl := hrc rfl
    exact ⟨CPSv.same rfl, nofun⟩
  loopCons st tl hs ht lb le b rc bc cc hok hbrk hf3 _ s ss hr he := by
    rw [LoopStmt.anaOKL_cons, Bool.and_eq_true] at hok
    rw [LoopStmt.nestedBrkL_cons, Bool.or_eq_true] at hbrk
    rw [LoopStmt.f3L_cons, Bool.or_eq_false_iff] at hf3
    rw [loopBody_cons] at he ⊢
    rw [LoopStmt.lowerL_cons]
    have e := chain2 (steps_nStmt' g _ st.toN _ s).errors_ext (steps_loopBody g tl lb le _ _ _ _).errors_ext he
    have hst := lay_nStmt hg hn ⟨none, some (lb, le)⟩ b st.toN rc bc cc hok.1 (fun h => hbrk (.inl h)) hf3.1
      (fun _ => rfl) hs s ss hr e.1
    exact cpsl_step (LoopStmt.lowerL true tl) tl.isEmpty hst.1.1 hst.2.2
      (fun hnil => ht lb le b _ _ _ hok.2 (fun h => hbrk (.inr h)) hf3.2 (fun h => hnil (h ▸ rfl)) _ _ hst.2.1 e.2)
      (fun h => by cases tl with | nil => exact ⟨rfl, fun _ => rfl⟩ | cons _ _ => cases h)

theorem lay_ifCondition (hg : GlobRel g rg) (hn : GNames g) : ∀ (i : IfStmt) (le : Option Name) (ll : Option (Name × Name)) (b : Bool),
    IfStmt.anaOK ll.isSome i = true → (i.hasBrk = true → b = true) → i.f3 = false →
    ∀ s ss, DRel g R s ss → (ifCondition g i le ll s).errors = s.errors →
      (le = none → CPSv (KOf ll b) s (ifCondition g i le ll s) (IfStmt.lower true i (effCount s.root.context))) ∧
      (∀ l0, le = some l0 → PassV (KOf ll b) s (ifCondition g i le ll s) (IfStmt.lower true i (effCount s.root.context)) l0) :=
  (lay_ind hg hn).ifStmt

theorem lay_ifBodies (hg : GlobRel g rg) (hn : GNames g) : ∀ (bd : IfBodies) (lEnd : Name) (ll : Option (Name × Name)) (b : Bool),
    IfBodies.anaOK ll.isSome bd = true → (bd.hasBrk = true → b = true) → bd.f3 = false →
    ∀ s ss, DRel g R s ss → (ifBodies g bd lEnd ll s).1.errors = s.errors →
      BodyJ (KOf ll b) s (ifBodies g bd lEnd ll s) (IfBodies.lower true bd (effCount s.root.context)) lEnd :=
  (lay_ind hg hn).bodies

theorem lay_ifBody (hg : GlobRel g rg) (hn : GNames g) : ∀ (l : List IfBodyStmt) (lEnd : Name) (ll : Option (Name × Name)) (b rc : Bool),
    IfBodyStmt.anaOKL ll.isSome l = true → (IfBodyStmt.hasBrkL l = true → b = true) →
    IfBodyStmt.f3L l = false → (l = [] → rc = false) →
    ∀ s ss, DRel g R s ss → (ifBody g l lEnd ll rc s).1.errors = s.errors →
      BodyJ (KOf ll b) s (ifBody g l lEnd ll rc s) (IfBodyStmt.lowerL true l (effCount s.root.context)) lEnd :=
  (lay_ind hg hn).ifBody

theorem lay_ifLoopBody (hg : GlobRel g rg) (hn : GNames g) : ∀ (l : List IfLoopStmt) (lEnd lb le : Name) (b rc bc cc : Bool),
    IfLoopStmt.anaOKL l = true → (IfLoopStmt.hasBrkL l = true → b = true) →
    IfLoopStmt.f3L l = false → (l = [] → rc = false) →
    ∀ s ss, DRel g R s ss → (ifLoopBody g l lEnd lb le rc bc cc s).1.errors = s.errors →
      BodyJ (some (lb, le, b)) s (ifLoopBody g l lEnd lb le rc bc cc s) (IfLoopStmt.lowerL true l (effCount s.root.context)) lEnd :=
  (lay_ind hg hn).ifLoopBody

theorem lay_loopBody (hg : GlobRel g rg) (hn : GNames g) : ∀ (l : List LoopStmt), LayLoop g R l :=
  (lay_ind hg hn).loopBody

end nested

section fnLevel
variable {g : Globals} {R : Ty} {rg : RGlobals}

theorem lay_sub (hg : GlobRel g rg) (hn : GNames g) (st : NStmt) : st.Sub (LayIf g R) (LayLoop g R) :=
  (lay_ind hg hn).sub st

theorem cnt_specParams : ∀ (ps : List (Name × ATy)) (s : SpecSt), countEff (specParams ps s).out = countEff s.out
  | [], _ => rfl
  | _ :: rest, _ =>
    (cnt_specParams rest _).trans ((countEff_append _ [_]).trans (Nat.add_zero _))

theorem lay_bodyStmts (hg : GlobRel g rg) (hn : GNames g) (resTy : Ty) : ∀ (l : List BodyStmt) (rc : Bool),
    BodyStmt.anaOKL l = true → BodyStmt.f3L l = false → (l = [] → rc = false) →
    ∀ s ss, DRel g resTy s ss → (bodyStmts g resTy l rc s).1.errors = s.errors →
      CPSv none s (bodyStmts g resTy l rc s).1 (BodyStmt.lowerL true l (effCount s.root.context)) ∧
      ((bodyStmts g resTy l rc s).2 = true → endsRet (BodyStmt.lowerL true l (effCount s.root.context)).1 = true) := by
  intro l
  induction l with
  | nil =>
    intro rc _ _ hrc s ss hr _
    obtain rfl := hrc rfl
    exact ⟨CPSv.same rfl, nofun⟩
  | cons st tl ih =>
    intro rc hok hf3 _ s ss hr he
    rw [BodyStmt.anaOKL_cons, Bool.and_eq_true] at hok
    rw [BodyStmt.f3L_cons, Bool.or_eq_false_iff] at hf3
    rw [bodyStmts_cons] at he ⊢
    rw [BodyStmt.lowerL_cons]
    have ih := fun rc' hnil => ih rc' hok.2 hf3.2 hnil
    generalize hq : st.split = q at hok hf3 he ⊢
    cases q with
    | inl n =>
      dsimp only [Sum.elim_inl] at hok hf3 he ⊢
      obtain ⟨e1, e2⟩ := chain2 (steps_nStmt' g _ n _ s).errors_ext (steps_bodyStmts g resTy tl rc _).errors_ext he
      obtain ⟨⟨rfl, -⟩, d1, hl⟩ := lay_nStmt hg hn ⟨none, none⟩ true n rc false false hok.1 (fun _ => rfl) hf3.1
        (fun hj => absurd hj (not_or.mpr (BodyStmt.split_inl hq).2)) (lay_sub hg hn n) s ss hr e1
      have c : CPSv none s (nStmt g ⟨none, none⟩ n ⟨false, false, false⟩ s).1 (lowerN true n (effCount s.root.context)) := by
        cases hl with
        | seq _ _ c => exact c
        | pass l0 _ hl => cases hl
        | term _ c _ => exact c.cps
      rw [← c.eff]
      exact cpsl_cons c (ih false (fun _ => rfl) _ _ d1 e2)
    | inr e =>
      dsimp only [Sum.elim_inr] at he ⊢
      obtain ⟨e0, e1, e2⟩ := chain3 (esteps_forbidden rc false false s).errors_ext
        (steps_fnReturn g resTy e rc _).errors_ext (steps_bodyStmts g resTy tl _ _).errors_ext he
      obtain ⟨rfl, -⟩ := forbidden_flags rc false false s e0
      dsimp only [forbidden_fff] at e1 e2 ⊢
      obtain ⟨jr, jf⟩ := cps_fnRet hg hn none resTy e s ss hr e1
      rw [jf] at e2 ⊢
      exact cpsl_step (f := ⟨false, false, false⟩) (f' := ⟨true, false, false⟩) (BodyStmt.lowerL true tl) tl.isEmpty rfl
        (.term (isIf := false) rfl jr fun _ => endsRet_lowerRet e _)
        (fun hnil => ih true (fun h => hnil (h ▸ rfl)) _ _ (den_fnReturn hg hn resTy e false s ss hr e1) e2)
        (fun h => by cases tl with | nil => exact ⟨rfl, fun _ => rfl⟩ | cons _ _ => cases h)

/-- **T4, analyzer half** — the root stack of a function analysed without error, outside the
finding F3, is a layout of the function's structured flow *under the F2 reading* (statements after
a nested `if` in an if / else body are dead), which ends in a return -/
theorem T4F2_function (hg : GlobRel g rg) (hn : GNames g) (f : FnDecl) (hok : BodyStmt.anaOKL f.body = true)
    (hf3 : f.hasF3 = false) (he : (functionBody g f).errors = []) :
    Lay none 0 f.flowF2 (functionBody g f).root.context .fall ∧ endsRet f.flowF2 = true := by
  unfold functionBody at he ⊢
  unfold FnDecl.flowF2
  unfold FnDecl.hasF3 at hf3
  dsimp only at he ⊢
  have x1 := (esteps_initParams f.params St.init paramInv_init).errors_ext
  have h1 := den_initParams (g := g) (R := f.result.toTy) f.params St.init SpecSt.init paramInv_init drel_init
  have st1 := esteps_initParams f.params St.init paramInv_init
  generalize initParams f.params St.init = s1 at he x1 h1 st1 ⊢
  have x2 := (steps_bodyStmts g f.result.toTy f.body false s1).errors_ext
  have l2 := lay_bodyStmts hg hn f.result.toTy f.body false hok hf3 (fun _ => rfl) s1 (specParams f.params SpecSt.init)
  generalize bodyStmts g f.result.toTy f.body false s1 = q at he x2 l2 ⊢
  obtain ⟨s2, rc⟩ := q
  dsimp only at he x2 l2 ⊢
  cases rc with
  | false => simp [St.addErr] at he
  | true =>
    rw [if_pos rfl] at he ⊢
    obtain ⟨e1, e2⟩ := chain2 (a := St.init.errors) x1 x2 he
    obtain ⟨c2, hend⟩ := l2 (h1 e1) e2
    -- the parameters are straight code without effects
    have cp := cps_straight (K := none) st1 drel_init (h1 e1) 0 (cnt_specParams f.params SpecSt.init)
    have hn1 : effCount s1.root.context = 0 := cp.eff
    rw [hn1] at c2 hend
    obtain ⟨seg, cs, _, lay⟩ := cp.trans c2
    have := lay [] [] .fall (Lay.nil _ _)
    rw [List.append_nil, List.append_nil] at this
    rw [cs]
    exact ⟨this, hend rfl⟩

/-- outside the findings F2 and F3 the root stack is a layout of the function's structured flow -/
theorem T4_function (hg : GlobRel g rg) (hn : GNames g) (f : FnDecl) (hok : BodyStmt.anaOKL f.body = true)
    (hf2 : f.hasF2 = false) (hf3 : f.hasF3 = false) (he : (functionBody g f).errors = []) :
    Lay none 0 f.flow (functionBody g f).root.context .fall ∧ endsRet f.flow = true := by
  rw [← flowF2_eq f hf2]
  exact T4F2_function hg hn f hok hf3 he

end fnLevel

end SemVerif
