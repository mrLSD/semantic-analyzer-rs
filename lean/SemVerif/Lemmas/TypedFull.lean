import SemVerif.Lemmas.RuleLock
/-!
# Lemmas/TypedFull — the typed scan of a rule-abiding accepted function reports nothing

`typed_function`: the scan invariant of the T2 induction (`TOK`) leaves two checks open; both are
closed through the abstract reading: a call instruction shows as a call event with as many argument
trees as it has operands, a nested return as an event with its recorded type; `T2_function`
identifies the events with those of the source denotation, and `lock_fn` says what they look like
when the rule checker reports nothing.
-/
namespace SemVerif

theorem typedGo_mem (c : ConstSem → Bool) (f : Func → Bool) (R : Ty) : ∀ (l : List Instr) (e : TyEnv) (p : Nat) (pb : Nat × TyBad),
    pb ∈ typedGo c f R l e p ↔
      ∃ pre i post, l = pre ++ i :: post ∧ pb.1 = p + pre.length ∧ pb.2 ∈ tyStepBad c f R (pre.foldl tyStepEnv e) i := by
  intro l
  induction l with
  | nil =>
    intro e p pb
    constructor
    · intro h; cases h
    · rintro ⟨pre, i, post, hl, _⟩; cases pre <;> cases hl
  | cons x xs ih =>
    intro e p pb
    unfold typedGo
    rw [List.mem_append, ih]
    constructor
    · rintro (h | ⟨pre, i, post, hl, hp, hb⟩)
      · obtain ⟨b, hb, rfl⟩ := List.mem_map.mp h
        exact ⟨[], x, xs, rfl, rfl, hb⟩
      · exact ⟨x :: pre, i, post, congrArg (x :: ·) hl, by rw [hp, List.length_cons, Nat.add_assoc, Nat.add_comm 1], hb⟩
    · rintro ⟨pre, i, post, hl, hp, hb⟩
      cases pre with
      | nil =>
        obtain ⟨rfl, rfl⟩ := List.cons.inj hl
        exact Or.inl (List.mem_map.mpr ⟨pb.2, hb, Prod.ext hp.symm rfl⟩)
      | cons y ys =>
        obtain ⟨rfl, rfl⟩ := List.cons.inj hl
        exact Or.inr ⟨ys, i, post, rfl, by rw [hp, List.length_cons, Nat.add_assoc, Nat.add_comm 1], hb⟩

theorem step_out (A : AbsSt) (i : Instr) : ∀ ev ∈ A.out, ev ∈ (abstractStep A i).out := by
  intro ev h
  cases i <;> first | exact h | exact List.mem_append_left _ h

theorem fold_out : ∀ (l : List Instr) (A : AbsSt), ∀ ev ∈ A.out, ev ∈ (l.foldl abstractStep A).out
  | [], _, _, h => h
  | i :: l, A, ev, h => fold_out l _ ev (step_out A i ev h)

theorem call_event : ∀ (l : List Instr) (A : AbsSt) (fd : Func) (ps : List ExprResult) (r : Nat), .call fd ps r ∈ l →
    ∃ ts, ts.length = ps.length ∧ DStmt.callS (.call fd.name ts) ∈ (l.foldl abstractStep A).out
  | [], _, _, _, _, h => by cases h
  | i :: l, A, fd, ps, r, h => by
    rcases List.mem_cons.mp h with h | h
    · rw [← h]
      exact ⟨ps.map A.res, List.length_map _, fold_out l _ _ (List.mem_append_right _ (List.mem_singleton_self _))⟩
    · exact call_event l _ fd ps r h

theorem jret_event : ∀ (l : List Instr) (A : AbsSt) (x : ExprResult), .jumpFnReturn x ∈ l →
    ∃ t, DStmt.jret x.ty t ∈ (l.foldl abstractStep A).out
  | [], _, _, h => by cases h
  | i :: l, A, x, h => by
    rcases List.mem_cons.mp h with h | h
    · rw [← h]
      exact ⟨A.res x, fold_out l _ _ (List.mem_append_right _ (List.mem_singleton_self _))⟩
    · exact jret_event l _ x h

theorem mem_badIf {b t : TyBad} {c : Bool} : b ∈ badIf c t ↔ c = false ∧ b = t := by
  cases c <;> simp [badIf]

theorem argCount_mem {c : ConstSem → Bool} {f : Func → Bool} {R : Ty} {e : TyEnv} {i : Instr}
    (h : TyBad.argCount ∈ tyStepBad c f R e i) : ∃ fd ps r, i = .call fd ps r ∧ ps.length ≠ fd.params.length := by
  unfold tyStepBad at h
  cases i with
  | call fd ps r =>
    simp only [List.mem_append, mem_badIf, reduceCtorEq, and_false, or_false, false_or, and_true, beq_eq_false_iff_ne] at h
    exact ⟨fd, ps, r, rfl, h⟩
  | exprStructValue v idx r =>
    dsimp only at h
    split at h
    · split at h
      · simp only [List.mem_append, mem_badIf, reduceCtorEq, and_false, or_false] at h
      · simp only [List.mem_singleton, reduceCtorEq] at h
    · simp only [List.mem_singleton, reduceCtorEq] at h
  | _ => simp only [List.mem_append, mem_badIf, reduceCtorEq, and_false, or_false, List.not_mem_nil] at h

theorem retType_jump {c : ConstSem → Bool} {f : Func → Bool} {R : Ty} {e : TyEnv} {x : ExprResult}
    (h : TyBad.retType ∈ tyStepBad c f R e (.jumpFnReturn x)) : x.ty ≠ R := by
  unfold tyStepBad at h
  simp only [List.mem_append, mem_badIf, reduceCtorEq, and_false, false_or, and_true, beq_eq_false_iff_ne] at h
  exact h

theorem calleeTable_call {c : ConstSem → Bool} {f : Func → Bool} {R : Ty} {e : TyEnv} {fd : Func} {ps : List ExprResult} {r : Nat}
    (h : f fd = false) : TyBad.calleeTable ∈ tyStepBad c f R e (.call fd ps r) := by
  unfold tyStepBad
  simp only [List.mem_append, mem_badIf, h, and_self, true_or]

variable {g : Globals} {rg : RGlobals}

theorem typed_function (hg : GlobRel g rg) (hn : GNames g) (f : FnDecl) (hok : BodyStmt.anaOKL f.body = true)
    (he : (functionBody g f).errors = []) (hwf : checkFn rg f = []) :
    typedGo (cOkOf g) (fOkOf g) f.result.toTy (functionBody g f).root.context TyEnv.init 0 = [] := by
  obtain ⟨habs, _, htok, _⟩ := T2_function hg hn f hok he
  have hev := lock_fn rg f hwf
  rw [← habs] at hev
  rw [List.eq_nil_iff_forall_not_mem]
  intro pb hpb
  obtain ⟨i', hget, hk⟩ := htok pb hpb
  obtain ⟨pre, i, post, hctx, hpos, hb⟩ := (typedGo_mem _ _ _ _ _ _ pb).mp hpb
  have hi : i' = i := by
    rw [hctx, hpos, Nat.zero_add, List.getElem?_append_right (Nat.le_refl _)] at hget
    simpa using hget.symm
  subst hi
  have hmem : i' ∈ (functionBody g f).root.context := by rw [hctx]; simp
  obtain ⟨pos, b⟩ := pb
  dsimp only at hk hb hpos
  unfold TyBad.known at hk
  split at hk
  · obtain ⟨fd, ps, r, rfl, hne⟩ := argCount_mem hb
    -- the callee record is the table's: the check that says so is not one of the two left open
    have hfd : g.funcs fd.name = some fd := by
      cases hfo : fOkOf g fd with
      | true => simpa [fOkOf] using hfo
      | false =>
        obtain ⟨j, _, hkj⟩ := htok _ ((typedGo_mem (cOkOf g) (fOkOf g) f.result.toTy _ TyEnv.init 0 (pos, .calleeTable)).mpr
          ⟨pre, _, post, hctx, hpos, calleeTable_call hfo⟩)
        cases hkj
    obtain ⟨ts, hlen, hts⟩ := call_event _ AbsSt.init fd ps r hmem
    obtain ⟨ps', res, hl, hlen'⟩ := hev _ hts
    have hgr := hg.funcs fd.name
    rw [hfd, hl] at hgr
    simp at hgr
    exact hne (by rw [← hlen, hlen', ← hgr.1])
  · split at hk
    · rename_i x
      obtain ⟨t, ht⟩ := jret_event _ AbsSt.init x hmem
      exact retType_jump hb (hev _ ht)
    · cases hk
  · cases hk

end SemVerif
