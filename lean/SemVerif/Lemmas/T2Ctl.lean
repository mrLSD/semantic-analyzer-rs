import SemVerif.Lemmas.T2Stmt
import SemVerif.Lemmas.T1Ctl
import SemVerif.Lemmas.PanicConv
import SemVerif.Lemmas.BodySpec
/-!
# Lemmas/T2Ctl — family T2, control constructs and nested bodies

Labels, jumps, child blocks and the suspended if-block do not show in the abstract reading of the
root stack; entering a block pushes an empty frame on both scope stacks, leaving pops it.  By
induction over the nested bodies (`BodyInd`) every control construct that reports no error maps
`DRel`-related states to `DRel`-related states, for every nesting depth.  The work is done outside
the induction: one statement of a nested body (`den_nStmt`), `loop_statement` around its loop
(`den_loopWrap`) and `if_condition` around its bodies (`den_if`) take the claims for what is nested
in them as hypotheses.
-/
namespace SemVerif

structure Quiet (s s' : St) : Prop where
  errors : s'.errors = s.errors
  abs : s'.abs = s.abs
  names : s'.root.innerNames = s.root.innerNames
  rd : RdInv s → RdInv s'
  tenv : s'.tenv = s.tenv
  tok : ∀ g R, TOK g R s → TOK g R s'
  rreg : s'.root.reg = s.root.reg

theorem Quiet.refl (s : St) : Quiet s s := ⟨rfl, rfl, rfl, fun h => h, rfl, fun _ _ h => h, rfl⟩

theorem Quiet.trans {a b c : St} (h1 : Quiet a b) (h2 : Quiet b c) : Quiet a c :=
  ⟨by rw [h2.errors, h1.errors], by rw [h2.abs, h1.abs], by rw [h2.names, h1.names], fun h => h2.rd (h1.rd h),
   by rw [h2.tenv, h1.tenv], fun g R h => h2.tok g R (h1.tok g R h), by rw [h2.rreg, h1.rreg]⟩

/-- an operation that reports nothing, leaves the root's stack, registry and counter alone and gives
its inner blocks the counters of live blocks is quiet: the reading, the typed scan and the reads
invariant look at nothing else -/
theorem quiet_of_fields {s s' : St} (he : s'.errors = s.errors) (hctx : s'.root.context = s.root.context)
    (hnames : s'.root.innerNames = s.root.innerNames) (hreg : s'.root.reg = s.root.reg)
    (hinner : ∀ b ∈ s'.inner, ∃ b' ∈ s.frames, b.reg = b'.reg) : Quiet s s' := by
  refine ⟨he, abs_of_ctx hctx, hnames, fun h => rd_same h ?_ hctx hreg, tenv_of_ctx hctx, fun _ _ h => tok_of_ctx hctx h, hreg⟩
  intro b hb
  obtain ⟨b', hb', e⟩ := hinner b hb
  rw [e, hreg]
  rcases mem_frames.mp hb' with hi | rfl
  · exact h.sync b' hi
  · rfl

/-- a quiet step preserves `DRel` up to the two scope stacks, which the caller relates anew: the
value tables (new frames are empty or old) and the declaration trees (the declarations are old) -/
theorem DRel.quiet {g : Globals} {R : Ty} {s s' : St} {ss ss' : SpecSt} (hr : DRel g R s ss) (q : Quiet s s')
    (hout : ss'.out = ss.out) (hnext : ss'.next = ss.next)
    (sc : ValsRel s'.vals ss'.tscope) (dv : DVals s.abs.decls s'.vals ss'.dscope)
    (dk : ∀ fr ∈ s'.vals, fr = [] ∨ fr ∈ s.vals)
    (vinv : FramesOk s'.dts [] ss'.dscope ss'.kids)
    (vreg : ∀ t ∈ s'.dts, ∀ x ∈ t.decls, ∃ t0 ∈ s.dts, x ∈ t0.decls) : DRel g R s' ss' := by
  refine ⟨⟨sc, by rw [q.abs]; exact dv, ?_, by rw [q.tenv, q.names]; exact hr.scope.dn⟩,
    by rw [q.abs, hout]; exact hr.out, by rw [q.abs, hnext]; exact hr.next,
    fun n hn => by rw [q.names]; exact hr.reg n (q.abs ▸ hn), q.rd hr.rd, q.tok g R hr.tok, vinv, ?_,
    fun p hp => by rw [q.rreg]; exact hr.wle p (q.tenv ▸ hp)⟩
  · intro fr hfr n v hv
    rw [q.tenv]
    rcases dk fr hfr with rfl | hfr
    · cases hv
    · exact hr.scope.dk fr hfr n v hv
  · intro t ht x hx
    obtain ⟨t0, ht0, hx0⟩ := vreg t ht x hx
    rw [q.names]
    exact hr.vreg t0 ht0 x hx0

theorem drel_same {g : Globals} {R : Ty} {s s' : St} {ss : SpecSt} (hr : DRel g R s ss) (q : Quiet s s') (hv : s'.vals = s.vals)
    (hd : s'.dts = s.dts) : DRel g R s' ss :=
  hr.quiet q rfl rfl (hv ▸ hr.scope.sc) (hv ▸ hr.scope.dv) (fun _ hfr => Or.inr (hv ▸ hfr)) (hd ▸ hr.vinv)
    (fun t ht _ hx => ⟨t, hd ▸ ht, hx⟩)

theorem drel_enter {g : Globals} {R : Ty} {s s' : St} {ss : SpecSt} (hr : DRel g R s ss) (q : Quiet s s') (hv : s'.vals = [] :: s.vals)
    (hd : s'.dts = .node [] [] [] :: s.dts) :
    DRel g R s' ss.push := by
  refine hr.quiet q rfl rfl (hv ▸ ValsRel.cons (fun _ => rfl) hr.scope.sc) (hv ▸ DVals.cons (fun _ => rfl) hr.scope.dv)
    (fun fr hfr => List.mem_cons.mp (hv ▸ hfr)) (hd ▸ framesOk_enter hr.vinv) (fun t ht x hx => ?_)
  rw [hd] at ht
  rcases List.mem_cons.mp ht with rfl | ht
  · cases hx
  · exact ⟨t, ht, hx⟩

theorem dvals_tail {decls : List Name} {vs : List (List (Name × Value))} {ds : List (List (Name × Nat))}
    (h : DVals decls vs ds) : DVals decls vs.tail ds.tail := by
  cases h with
  | nil => exact DVals.nil
  | cons _ h => exact h

theorem dts_length (s : St) : s.dts.length = s.inner.length + 1 := by
  unfold St.dts St.frames
  rw [List.length_map, List.length_append]
  rfl

theorem drel_leave {g : Globals} {R : Ty} {s s' : St} {ss : SpecSt} (hr : DRel g R s ss) (q : Quiet s s') (hv : s'.vals = s.vals.tail)
    (hd : s'.dts = closeDts s.dts) (hin : s.inner ≠ []) :
    DRel g R s' ss.pop := by
  -- with an inner block live there are at least two declaration trees
  obtain ⟨t0, v1, d1, c1, ts, hs⟩ : ∃ t0 v1 d1 c1 ts, s.dts = t0 :: .node v1 d1 c1 :: ts := by
    have hl := dts_length s
    cases hdts : s.dts with
    | nil => rw [hdts] at hl; cases hl
    | cons t0 r =>
      cases r with
      | nil =>
        rw [hdts] at hl
        exact absurd (List.eq_nil_of_length_eq_zero (Nat.succ.inj hl).symm) hin
      | cons t1 ts => cases t1 with | node v d c => exact ⟨t0, v, d, c, ts, rfl⟩
  rw [hs] at hd
  refine hr.quiet q rfl rfl (hv ▸ scopeRel_tail hr.scope.sc) (hv ▸ dvals_tail hr.scope.dv)
    (fun fr hfr => Or.inr (List.mem_of_mem_tail (hv ▸ hfr))) ?_ (fun t ht x hx => ?_)
  · have hv' := hr.vinv
    rw [hs] at hv'
    obtain ⟨fr0, frs0, k0, ks0, hds, hks, hf0, hin0, hrest0⟩ := hv'.inv_cons
    obtain ⟨fr1, frs, k1, ks, hds1, hks1, hf1, hin1, hrest1⟩ := hrest0.inv_cons
    subst hds1; subst hks1
    have := framesOk_leave (FramesOk.cons hf0 hin0 (FramesOk.cons hf1 hin1 hrest1))
    rw [hd]
    unfold SpecSt.pop SpecSt.topNames
    dsimp only [closeDts]
    rw [hds, hks]
    exact this
  · rw [hd] at ht
    rcases List.mem_cons.mp ht with rfl | ht
    · exact ⟨.node v1 d1 c1, by rw [hs]; exact List.mem_cons_of_mem _ List.mem_cons_self, hx⟩
    · exact ⟨t, by rw [hs]; exact List.mem_cons_of_mem _ (List.mem_cons_of_mem _ ht), hx⟩

structure Instr.skipped (i : Instr) : Prop where
  abs : ∀ A : AbsSt, abstractStep A i = A
  reads : i.reads = []
  writes : i.writes = none
  tenv : ∀ e, tyStepEnv e i = e
  bad : ∀ c f R e, tyStepBad c f R e i = []
  declares : i.declares = none

theorem skipped_jumpTo (l : Name) : (Instr.jumpTo l).skipped := ⟨fun _ => rfl, rfl, rfl, fun _ => rfl, fun _ _ _ _ => rfl, rfl⟩

theorem skipped_setLabel (l : Name) : (Instr.setLabel l).skipped := ⟨fun _ => rfl, rfl, rfl, fun _ => rfl, fun _ _ _ _ => rfl, rfl⟩

theorem quiet_push (i : Instr) (hi : i.skipped) (s : St) : Quiet s (s.push i) :=
  ⟨rfl, by rw [abs_push, hi.abs], rfl,
   fun h => rd_push_nowrite h i hi.writes (fun q hq => by rw [hi.reads] at hq; cases hq),
   by rw [tenv_push, hi.tenv],
   fun g R h => tok_push i h (by rw [hi.bad]; intro b hb; cases hb), rfl⟩

theorem quiet_pushVia (k : Nat) (i : Instr) (hi : i.skipped) (s : St) : Quiet s (s.pushVia k i) := by
  refine Quiet.trans ?_ (quiet_push i hi _)
  -- the suspended block's own stack is no part of the reading
  unfold St.mapCur
  cases hin : s.inner with
  | nil => exact quiet_of_fields rfl rfl rfl rfl (fun b hb => by cases hb)
  | cons b0 rest =>
    refine quiet_of_fields rfl rfl rfl rfl (fun b hb => ?_)
    rcases List.mem_cons.mp hb with rfl | hb
    · exact ⟨b0, mem_frames.mpr (Or.inl (hin ▸ List.mem_cons_self)), rfl⟩
    · exact ⟨b, mem_frames.mpr (Or.inl (hin ▸ List.mem_cons_of_mem _ hb)), rfl⟩

theorem quiet_probeLabel (stem : Name) (s : St) : Quiet s (s.probeLabel stem).2 :=
  quiet_of_fields rfl rfl rfl rfl (fun b hb => by
    obtain ⟨b', hb', rfl⟩ := List.mem_map.mp hb
    exact ⟨b', mem_frames.mpr (Or.inl hb'), rfl⟩)

theorem quiet_enter (s : St) : Quiet s s.enter :=
  quiet_of_fields rfl rfl rfl rfl (fun b hb => by
    rcases List.mem_cons.mp hb with rfl | hb
    · exact ⟨s.cur, cur_mem_frames s, rfl⟩
    · exact ⟨b, mem_frames.mpr (Or.inl hb), rfl⟩)

theorem quiet_leave (s : St) : Quiet s s.leave.2 :=
  quiet_of_fields (leave_errors s) (root_leave_fields s).1 (root_leave_fields s).2.2.1 (root_leave_fields s).2.2.2.2.1
    (fun b hb => by
      obtain ⟨b', hb', _, _, _, _, hr, _⟩ := inner_leave s b hb
      exact ⟨b', mem_frames.mpr (Or.inl hb'), hr⟩)

/-! Every helper of `if_condition` and `loop_statement` is a chain of label probes and pushes, after
entering a block (`Plain`) or around leaving one (`Left`). -/

structure Plain (s s' : St) : Prop where
  quiet : Quiet s s'
  dts : s'.dts = s.dts

theorem Plain.refl (s : St) : Plain s s := ⟨Quiet.refl s, rfl⟩

theorem Plain.trans {a b c : St} (h1 : Plain a b) (h2 : Plain b c) : Plain a c :=
  ⟨h1.quiet.trans h2.quiet, h2.dts.trans h1.dts⟩

theorem Plain.ite {c : Bool} {s a b : St} (ha : Plain s a) (hb : Plain s b) : Plain s (if c then a else b) := by
  cases c
  · exact hb
  · exact ha

theorem plain_push (i : Instr) (hi : i.skipped) (s : St) : Plain s (s.push i) :=
  ⟨quiet_push i hi s, dts_push_plain i s hi.declares⟩

theorem plain_pushVia (k : Nat) (i : Instr) (hi : i.skipped) (s : St) : Plain s (s.pushVia k i) :=
  ⟨quiet_pushVia k i hi s, dts_pushVia k i s hi.declares⟩

theorem plain_probeLabel (stem : Name) (s : St) : Plain s (s.probeLabel stem).2 :=
  ⟨quiet_probeLabel stem s, dts_probeLabel stem s⟩

structure Left (s s' : St) : Prop where
  quiet : Quiet s s'
  dts : s.inner ≠ [] → s'.dts = closeDts s.dts

theorem Plain.leave {s a : St} (h : Plain s a) : Left s a.leave.2 := by
  refine ⟨h.quiet.trans (quiet_leave a), fun hin => ?_⟩
  -- equal tree lists have equal length: `a` has an inner block too
  have hlen : a.inner.length = s.inner.length :=
    Nat.succ.inj ((dts_length a).symm.trans ((congrArg List.length h.dts).trans (dts_length s)))
  rw [dts_leave a (fun hn => hin (List.eq_nil_of_length_eq_zero (by rw [← hlen, hn]; rfl))), h.dts]

theorem Left.plain {s a b : St} (h : Left s a) (hp : Plain a b) : Left s b :=
  ⟨h.quiet.trans hp.quiet, fun hin => hp.dts.trans (h.dts hin)⟩

theorem plain_ifLabels (le : Option Name) (s : St) : Plain s.enter (ifLabels le s).2.2.2 := by
  unfold ifLabels
  dsimp only
  cases le with
  | some l => exact (plain_probeLabel _ _).trans (plain_probeLabel _ _)
  | none => exact (plain_probeLabel _ _).trans ((plain_probeLabel _ _).trans (plain_probeLabel _ _))

theorem quiet_ifLabels (le : Option Name) (s : St) : Quiet s (ifLabels le s).2.2.2 :=
  (quiet_enter s).trans (plain_ifLabels le s).quiet

theorem dts_ifLabels (le : Option Name) (s : St) : (ifLabels le s).2.2.2.dts = .node [] [] [] :: s.dts :=
  (plain_ifLabels le s).dts.trans (dts_enter s)

theorem plain_loopPrologue (s : St) : Plain s.enter (loopPrologue s).2.2 := by
  unfold loopPrologue
  exact (plain_probeLabel _ _).trans ((plain_probeLabel _ _).trans
    ((plain_push _ (skipped_jumpTo _) _).trans (plain_push _ (skipped_setLabel _) _)))

theorem quiet_loopPrologue (s : St) : Quiet s (loopPrologue s).2.2 :=
  (quiet_enter s).trans (plain_loopPrologue s).quiet

theorem dts_loopPrologue (s : St) : (loopPrologue s).2.2.dts = .node [] [] [] :: s.dts :=
  (plain_loopPrologue s).dts.trans (dts_enter s)

theorem left_ifAfterBody (isElse r : Bool) (lElse lEnd : Name) (s : St) :
    Left s (ifAfterBody isElse r lElse lEnd s).2 := by
  unfold ifAfterBody
  exact ((Plain.ite (Plain.refl s) (plain_push _ (skipped_jumpTo lEnd) s)).trans
    (Plain.ite (plain_push _ (skipped_setLabel lElse) _) (Plain.refl _))).leave

theorem quiet_ifAfterBody (isElse r : Bool) (lElse lEnd : Name) (s : St) :
    Quiet s (ifAfterBody isElse r lElse lEnd s).2 := (left_ifAfterBody isElse r lElse lEnd s).quiet

theorem dts_ifAfterBody (isElse r : Bool) (lElse lEnd : Name) (s : St) (hin : s.inner ≠ []) :
    (ifAfterBody isElse r lElse lEnd s).2.dts = closeDts s.dts := (left_ifAfterBody isElse r lElse lEnd s).dts hin

theorem left_ifAfterElse (k : Nat) (r : Bool) (lEnd : Name) (s : St) : Left s (ifAfterElse k r lEnd s) := by
  unfold ifAfterElse
  exact (Plain.refl s).leave.plain (Plain.ite (Plain.refl _) (plain_pushVia _ _ (skipped_jumpTo lEnd) _))

theorem quiet_ifAfterElse (k : Nat) (r : Bool) (lEnd : Name) (s : St) : Quiet s (ifAfterElse k r lEnd s) :=
  (left_ifAfterElse k r lEnd s).quiet

theorem plain_ifEpilogue (k : Nat) (le : Option Name) (lEnd : Name) (s : St) : Plain s (ifEpilogue k le lEnd s) := by
  unfold ifEpilogue
  exact Plain.ite (Plain.refl s) (plain_pushVia _ _ (skipped_setLabel lEnd) s)

theorem quiet_ifEpilogue (k : Nat) (le : Option Name) (lEnd : Name) (s : St) : Quiet s (ifEpilogue k le lEnd s) :=
  (plain_ifEpilogue k le lEnd s).quiet

theorem left_loopEpilogue (r : Bool) (lb le : Name) (s : St) : Left s (loopEpilogue r lb le s) := by
  unfold loopEpilogue
  exact (Plain.ite (Plain.refl s)
    ((plain_push _ (skipped_jumpTo lb) s).trans (plain_push _ (skipped_setLabel le) _))).leave

theorem quiet_loopEpilogue (r : Bool) (lb le : Name) (s : St) : Quiet s (loopEpilogue r lb le s) :=
  (left_loopEpilogue r lb le s).quiet

theorem chain2 {a b c : List Err} (h1 : ∃ Δ, b = a ++ Δ) (h2 : ∃ Δ, c = b ++ Δ) (h : c = a) : b = a ∧ c = b := by
  obtain ⟨d1, rfl⟩ := h1
  obtain ⟨d2, rfl⟩ := h2
  rw [List.append_assoc] at h
  have := List.append_right_eq_self.mp h
  rw [List.append_eq_nil_iff] at this
  obtain ⟨rfl, rfl⟩ := this
  simp

theorem ext_trans {a b c : List Err} (h1 : ∃ Δ, b = a ++ Δ) (h2 : ∃ Δ, c = b ++ Δ) : ∃ Δ, c = a ++ Δ := by
  obtain ⟨d1, rfl⟩ := h1
  obtain ⟨d2, rfl⟩ := h2
  exact ⟨d1 ++ d2, List.append_assoc _ _ _⟩

theorem chain3 {a b c d : List Err} (h1 : ∃ Δ, b = a ++ Δ) (h2 : ∃ Δ, c = b ++ Δ) (h3 : ∃ Δ, d = c ++ Δ) (h : d = a) :
    b = a ∧ c = b ∧ d = c := by
  obtain ⟨hc, hd⟩ := chain2 (ext_trans h1 h2) h3 h
  obtain ⟨hb, hc'⟩ := chain2 h1 h2 hc
  exact ⟨hb, hc', hd⟩

theorem optErr_id (b : Bool) (s : St) (k : ErrKind) (n : Name) (l o : Nat)
    (h : (if b then s.addErr k n l o else s).errors = s.errors) : (if b then s.addErr k n l o else s) = s := by
  cases b
  · rfl
  · exact absurd (congrArg List.length h) (by simp [St.addErr])

theorem forbidden_id (rc bc cc : Bool) (s : St) (h : (forbidden rc bc cc s).errors = s.errors) :
    forbidden rc bc cc s = s := by
  have : forbidden rc bc cc s = { s with errors := (forbidden rc bc cc s).errors } := by
    cases rc <;> cases bc <;> cases cc <;> rfl
  rw [this, h]

/-- `StD` with the number of live blocks, from which `drel_leave` gets its `s.inner ≠ []` -/
def CtD (g : Globals) (R : Ty) (f : St → St) (F : SpecSt → SpecSt) : Prop :=
  ∀ s ss, DRel g R s ss → (f s).errors = s.errors → DRel g R (f s) (F ss) ∧ (f s).inner.length = s.inner.length

theorem ctd_of_std {g : Globals} {R : Ty} {f : St → St} {F : SpecSt → SpecSt} (h : StD g R f F) (hs : ∀ s, ESteps s (f s)) : CtD g R f F :=
  fun s ss hr he => ⟨h s ss hr he, (hs s).inner_len⟩

/-- two constructs in sequence: when the second ends with the error list of the start, so did the first -/
theorem den_seq {g : Globals} {R : Ty} {s s1 sf : St} {ss1 ssF : SpecSt}
    (x1 : ∃ Δ, s1.errors = s.errors ++ Δ) (x2 : ∃ Δ, sf.errors = s1.errors ++ Δ) (he : sf.errors = s.errors)
    (h1 : s1.errors = s.errors → DRel g R s1 ss1 ∧ s1.inner.length = s.inner.length)
    (h2 : DRel g R s1 ss1 → sf.errors = s1.errors → DRel g R sf ssF ∧ sf.inner.length = s1.inner.length) :
    DRel g R sf ssF ∧ sf.inner.length = s.inner.length := by
  obtain ⟨e1, e2⟩ := chain2 x1 x2 he
  obtain ⟨r1, l1⟩ := h1 e1
  obtain ⟨r2, l2⟩ := h2 r1 e2
  exact ⟨r2, l2.trans l1⟩

/-- a construct after the "code after" diagnostics: without a new error none of them was issued -/
theorem ctd_forbidden {g : Globals} {R : Ty} {k : St → St} {F : SpecSt → SpecSt} (f : Flags)
    (hx : ∀ s, ∃ Δ, (k s).errors = s.errors ++ Δ) (hk : CtD g R k F) :
    CtD g R (fun s => k (forbidden f.rc f.bc f.cc s)) F := by
  intro s ss hr he
  have hid := forbidden_id _ _ _ s (chain2 (esteps_forbidden f.rc f.bc f.cc s).errors_ext (hx _) he).1
  dsimp only at he ⊢
  rw [hid] at he ⊢
  exact hk s ss hr he

theorem ctd_jump {g : Globals} {R : Ty} (f : Flags) (l : Name) :
    CtD g R (fun s => (forbidden f.rc f.bc f.cc s).push (.jumpTo l)) id :=
  ctd_forbidden f (fun s => ⟨[], by rw [(push_fields _ s).1, List.append_nil]⟩) fun s _ hr _ =>
    ⟨drel_same hr (quiet_push _ (skipped_jumpTo l) s) (vals_push _ s) (dts_push_plain _ s rfl), (push_fields _ s).2⟩

theorem den_ifPrologue {g : Globals} {R : Ty} {rg : RGlobals} (hg : GlobRel g rg) (hn : GNames g) (cond : IfCond) (dup isElse : Bool)
    (le : Option Name) (s : St) (ss : SpecSt) (hr : DRel g R s ss)
    (he : (ifPrologue g cond dup isElse le s).2.2.errors = s.errors) :
    DRel g R (ifPrologue g cond dup isElse le s).2.2 (specIfCond false cond ss.push) ∧
    (ifPrologue g cond dup isElse le s).2.2.inner.length = s.inner.length + 1 := by
  unfold ifPrologue at he ⊢
  dsimp only at he ⊢
  have x0 := optErr_ext dup s .ifElseDuplicated "if-condition".toList 1 0
  have hdup := optErr_id dup s .ifElseDuplicated "if-condition".toList 1 0
  generalize (if dup then s.addErr .ifElseDuplicated "if-condition".toList 1 0 else s) = s0 at he x0 hdup ⊢
  have q1 := quiet_ifLabels le s0
  have f1 := ifLabels_fields le s0
  have d1 := dts_ifLabels le s0
  generalize ifLabels le s0 = p at he q1 f1 d1 ⊢
  obtain ⟨lBegin, lElse, lEnd, s1⟩ := p
  dsimp only at he q1 f1 d1 ⊢
  rw [(push_fields _ _).1] at he
  have x2 := (esteps_ifCondCalc g cond lBegin lElse lEnd isElse s1).errors_ext
  obtain ⟨e1, e2⟩ := chain2 (by rw [f1.1]; exact x0) x2 he
  have hs0 := hdup (f1.1.symm.trans e1)
  subst hs0
  have r2 := den_ifCondCalc hg hn cond lBegin lElse lEnd isElse s1 ss.push (drel_enter hr q1 f1.2.1 d1) e2
  refine ⟨drel_same r2 (quiet_push _ (skipped_setLabel _) _) (vals_push _ _) (dts_push_plain _ _ rfl), ?_⟩
  rw [(push_fields _ _).2, (esteps_ifCondCalc g cond lBegin lElse lEnd isElse s1).inner_len, f1.2.2]

theorem den_loopWrap {g : Globals} {R : Ty} (k : Name → Name → Bool → Bool → Bool → St → St × Bool) (K : SpecSt → SpecSt)
    (hx : ∀ lb le rc bc cc s, Steps s (k lb le rc bc cc s).1)
    (hk : ∀ lb le s ss, DRel g R s ss → (k lb le false false false s).1.errors = s.errors →
      DRel g R (k lb le false false false s).1 (K ss) ∧ (k lb le false false false s).1.inner.length = s.inner.length) :
    CtD g R (loopWrap k) (fun ss => (K ss.push).pop) := by
  intro s ss hr he
  unfold loopWrap at he ⊢
  dsimp only at he ⊢
  have q1 := quiet_loopPrologue s
  have f1 := loopPrologue_fields s
  have d1 := dts_loopPrologue s
  generalize loopPrologue s = p at he q1 f1 d1 ⊢
  obtain ⟨lb, le, s1⟩ := p
  dsimp only at he q1 f1 d1 ⊢
  have x2 := (hx lb le false false false s1).errors_ext
  have h2 := hk lb le s1 ss.push (drel_enter hr q1 f1.2.1 d1)
  generalize k lb le false false false s1 = q at he x2 h2 ⊢
  obtain ⟨s2, r⟩ := q
  dsimp only at he x2 h2 ⊢
  have l3 := left_loopEpilogue r lb le s2
  rw [l3.quiet.errors, ← f1.1] at he
  obtain ⟨r2, l2⟩ := h2 he
  have hne : s2.inner ≠ [] := inner_ne_of_len (l2.trans f1.2.2)
  have f3 := loopEpilogue_fields r lb le s2 hne
  exact ⟨drel_leave r2 l3.quiet f3.2.1 (l3.dts hne) hne, Nat.succ.inj (f3.2.2.trans (l2.trans f1.2.2))⟩

variable {g : Globals} {R : Ty} {rg : RGlobals}

theorem den_nStmt (hg : GlobRel g rg) (hn : GNames g) (K : BodyK) (st : NStmt) (f : Flags)
    (hok : anaOKN K.ll.isSome st = true)
    (h : st.Sub
      (fun i => ∀ le ll, IfStmt.anaOK ll.isSome i = true → CtD g R (ifCondition g i le ll) (specIf false rg i))
      (fun l => ∀ lb le rc bc cc, LoopStmt.anaOKL l = true →
        CtD g R (fun s => (loopBody g l lb le rc bc cc s).1) (specLoopBody false rg l))) :
    CtD g R (fun s => (nStmt g K st f s).1) (specN false rg st) := by
  cases st with
  | letB b =>
    exact ctd_forbidden f (fun s => (esteps_letBinding g b s).errors_ext) (ctd_of_std (den_let hg hn b) (esteps_letBinding g b))
  | bind b =>
    exact ctd_forbidden f (fun s => (esteps_binding g b s).errors_ext) (ctd_of_std (den_bind hg hn b) (esteps_binding g b))
  | call c =>
    exact ctd_forbidden f (fun s => (esteps_callStmt g c s).errors_ext) (ctd_of_std (den_callS hg hn c) (esteps_callStmt g c))
  | ifS i => exact ctd_forbidden f (fun s => (steps_ifCondition g i K.lEnd K.ll s).errors_ext) (h K.lEnd K.ll hok)
  | loop l =>
    exact ctd_forbidden f (fun s => (steps_loopWrap _ (steps_loopBody g l) s).errors_ext)
      (den_loopWrap _ (specLoopBody false rg l) (steps_loopBody g l) (fun lb le => h lb le false false false hok))
  | ret e =>
    exact ctd_forbidden f (fun s => (steps_nestedReturn g e s).errors_ext)
      (fun s ss hr he => ⟨den_nestedReturn hg hn e s ss hr he, nestedReturn_len e s⟩)
  | brk => exact ctd_jump f _
  | cont => exact ctd_jump f _

theorem den_if (hg : GlobRel g rg) (hn : GNames g) (cond : IfCond) (body : IfBodies) (els : Option IfBodies)
    (elif : Option IfStmt) (labelEnd : Option Name) (ll : Option (Name × Name))
    (hb : ∀ lEnd, CtD g R (fun s => (ifBodies g body lEnd ll s).1) (specBodies false rg body))
    (ht : match els, elif with
      | some eb, _ => ∀ lEnd, CtD g R (fun s => (ifBodies g eb lEnd ll s).1) (specBodies false rg eb)
      | none, some ei => ∀ lEnd, CtD g R (ifCondition g ei (some lEnd) ll) (specIf false rg ei)
      | none, none => True) :
    CtD g R (ifCondition g (.mk cond body els elif) labelEnd ll) (specIf false rg (.mk cond body els elif)) := by
  intro s ss hr he
  rw [ifCondition.eq_def] at he ⊢
  dsimp only at he ⊢
  have x1 := (steps_ifPrologue g cond (els.isSome && elif.isSome) (els.isSome || elif.isSome) labelEnd s).errors_ext
  have h1 := den_ifPrologue hg hn cond (els.isSome && elif.isSome) (els.isSome || elif.isSome) labelEnd s ss hr
  generalize ifPrologue g cond (els.isSome && elif.isSome) (els.isSome || elif.isSome) labelEnd s = p at he x1 h1 ⊢
  obtain ⟨lElse, lEnd, s1⟩ := p
  have x2 := (steps_ifBodies g body lEnd ll s1).errors_ext
  have h2 := hb lEnd s1 (specIfCond false cond ss.push)
  dsimp only at h2
  generalize ifBodies g body lEnd ll s1 = q at he x2 h2 ⊢
  obtain ⟨s2, r⟩ := q
  have l3 := left_ifAfterBody (els.isSome || elif.isSome) r lElse lEnd s2
  have f3 := ifAfterBody_fields (els.isSome || elif.isSome) r lElse lEnd s2
  generalize ifAfterBody (els.isSome || elif.isSome) r lElse lEnd s2 = a at he l3 f3 ⊢
  obtain ⟨k, s3⟩ := a
  dsimp only at he x1 h1 x2 h2 l3 f3 ⊢
  rw [(quiet_ifEpilogue _ _ _ _).errors] at he
  -- up to the suspended if-block `s3`
  have x3 : ∃ Δ, s3.errors = s.errors ++ Δ := by
    rw [l3.quiet.errors]
    exact ext_trans x1 x2
  have h3 : s3.errors = s.errors →
      DRel g R s3 (specBodies false rg body (specIfCond false cond ss.push)).pop ∧ s3.inner.length = s.inner.length := by
    intro he3
    rw [l3.quiet.errors] at he3
    obtain ⟨e1, e2⟩ := chain2 x1 x2 he3
    obtain ⟨r1, l1⟩ := h1 e1
    obtain ⟨r2, l2⟩ := h2 r1 e2
    have hne : s2.inner ≠ [] := inner_ne_of_len (l2.trans l1)
    exact ⟨drel_leave r2 l3.quiet (f3 hne).2.1 (l3.dts hne) hne, Nat.succ.inj ((f3 hne).2.2.trans (l2.trans l1))⟩
  -- the end label is quiet
  suffices h : ∀ t tt, DRel g R t tt ∧ t.inner.length = s.inner.length →
      DRel g R (ifEpilogue k labelEnd lEnd t) tt ∧ (ifEpilogue k labelEnd lEnd t).inner.length = s.inner.length by
    apply h
    cases els with
    | some eb =>
      dsimp only at he ht ⊢
      rw [(quiet_ifAfterElse _ _ _ _).errors] at he
      obtain ⟨e3, e4⟩ := chain2 x3 (steps_ifBodies g eb lEnd ll s3.enter).errors_ext he
      obtain ⟨r3, l3'⟩ := h3 e3
      have h4 := ht lEnd s3.enter _ (drel_enter r3 (quiet_enter s3) (vals_enter s3) (dts_enter s3)) e4
      dsimp only at h4
      generalize ifBodies g eb lEnd ll s3.enter = q4 at h4 ⊢
      obtain ⟨s4, r4⟩ := q4
      dsimp only at h4 ⊢
      obtain ⟨r4', l4⟩ := h4
      have hne : s4.inner ≠ [] := inner_ne_of_len l4
      have f5 := ifAfterElse_fields k r4 lEnd s4 hne
      exact ⟨drel_leave r4' (quiet_ifAfterElse _ _ _ _) f5.2.1 ((left_ifAfterElse k r4 lEnd s4).dts hne) hne,
        (Nat.succ.inj (f5.2.2.trans l4)).trans l3'⟩
    | none =>
      cases elif with
      | some ei => exact den_seq x3 (steps_ifCondition g ei (some lEnd) ll s3).errors_ext he h3 (ht lEnd s3 _)
      | none => exact h3 he
  intro t tt ⟨rt, lt⟩
  exact ⟨drel_same rt (quiet_ifEpilogue _ _ _ _) (ifEpilogue_fields _ _ _ _).2.1 (plain_ifEpilogue _ _ _ _).dts,
    (ifEpilogue_fields _ _ _ _).2.2.trans lt⟩

theorem den_ind (hg : GlobRel g rg) (hn : GNames g) : BodyInd
    (fun i => ∀ le ll, IfStmt.anaOK ll.isSome i = true → CtD g R (ifCondition g i le ll) (specIf false rg i))
    (fun b => ∀ lEnd ll, IfBodies.anaOK ll.isSome b = true →
      CtD g R (fun s => (ifBodies g b lEnd ll s).1) (specBodies false rg b))
    (fun l => ∀ lEnd ll rc, IfBodyStmt.anaOKL ll.isSome l = true →
      CtD g R (fun s => (ifBody g l lEnd ll rc s).1) (specIfBody false rg l))
    (fun l => ∀ lEnd lb le rc bc cc, IfLoopStmt.anaOKL l = true →
      CtD g R (fun s => (ifLoopBody g l lEnd lb le rc bc cc s).1) (specIfLoopBody false rg l))
    (fun l => ∀ lb le rc bc cc, LoopStmt.anaOKL l = true →
      CtD g R (fun s => (loopBody g l lb le rc bc cc s).1) (specLoopBody false rg l)) where
  ifS cond body els elif hb he hi labelEnd ll hok := by
    rw [IfStmt.anaOK_mk, Bool.and_eq_true] at hok
    refine den_if hg hn cond body els elif labelEnd ll (fun lEnd => hb lEnd ll hok.1) ?_
    cases els with
    | some eb => exact fun lEnd => he eb rfl lEnd ll hok.2
    | none =>
      cases elif with
      | some ei => exact fun lEnd => hi ei rfl (some lEnd) ll hok.2
      | none => trivial
  ifb l h lEnd ll hok := h lEnd ll false hok
  loopb l h lEnd ll hok := by
    cases ll with
    | some p => exact h lEnd p.1 p.2 false false false hok
    | none => exact absurd hok Bool.false_ne_true
  ifNil _ _ _ _ _ _ hr _ := ⟨hr, rfl⟩
  ifCons st tl hs ht lEnd ll rc hok s ss hr he := by
    rw [IfBodyStmt.anaOKL_cons, Bool.and_eq_true] at hok
    dsimp only at he ⊢
    rw [ifBody_cons] at he ⊢
    rw [specIfBody_cons]
    exact den_seq (steps_nStmt' g _ st.toN _ s).errors_ext (steps_ifBody g tl lEnd ll _ _).errors_ext he
      (den_nStmt hg hn ⟨some lEnd, ll⟩ st.toN _ hok.1 hs s ss hr) (ht lEnd ll _ hok.2 _ _)
  ifLoopNil _ _ _ _ _ _ _ _ _ hr _ := ⟨hr, rfl⟩
  ifLoopCons st tl hs ht lEnd lb le rc bc cc hok s ss hr he := by
    rw [IfLoopStmt.anaOKL_cons, Bool.and_eq_true] at hok
    dsimp only at he ⊢
    rw [ifLoopBody_cons] at he ⊢
    rw [specIfLoopBody_cons]
    exact den_seq (steps_nStmt' g _ st.toN _ s).errors_ext (steps_ifLoopBody g tl lEnd lb le _ _ _ _).errors_ext he
      (den_nStmt hg hn ⟨some lEnd, some (lb, le)⟩ st.toN _ hok.1 hs s ss hr) (ht lEnd lb le _ _ _ hok.2 _ _)
  loopNil _ _ _ _ _ _ _ _ hr _ := ⟨hr, rfl⟩
  loopCons st tl hs ht lb le rc bc cc hok s ss hr he := by
    rw [LoopStmt.anaOKL_cons, Bool.and_eq_true] at hok
    dsimp only at he ⊢
    rw [loopBody_cons] at he ⊢
    rw [specLoopBody_cons]
    exact den_seq (steps_nStmt' g _ st.toN _ s).errors_ext (steps_loopBody g tl lb le _ _ _ _).errors_ext he
      (den_nStmt hg hn ⟨none, some (lb, le)⟩ st.toN _ hok.1 hs s ss hr) (ht lb le _ _ _ hok.2 _ _)

theorem den_ifCondition (hg : GlobRel g rg) (hn : GNames g) : ∀ (i : IfStmt) (le : Option Name) (ll : Option (Name × Name)),
    IfStmt.anaOK ll.isSome i = true → CtD g R (ifCondition g i le ll) (specIf false rg i) :=
  (den_ind hg hn).ifStmt

theorem den_ifBodies (hg : GlobRel g rg) (hn : GNames g) : ∀ (b : IfBodies) (lEnd : Name) (ll : Option (Name × Name)),
    IfBodies.anaOK ll.isSome b = true → ∀ s ss, DRel g R s ss → (ifBodies g b lEnd ll s).1.errors = s.errors →
      DRel g R (ifBodies g b lEnd ll s).1 (specBodies false rg b ss) ∧ (ifBodies g b lEnd ll s).1.inner.length = s.inner.length :=
  (den_ind hg hn).bodies

theorem den_ifBody (hg : GlobRel g rg) (hn : GNames g) : ∀ (l : List IfBodyStmt) (lEnd : Name) (ll : Option (Name × Name)) (rc : Bool),
    IfBodyStmt.anaOKL ll.isSome l = true → ∀ s ss, DRel g R s ss → (ifBody g l lEnd ll rc s).1.errors = s.errors →
      DRel g R (ifBody g l lEnd ll rc s).1 (specIfBody false rg l ss) ∧ (ifBody g l lEnd ll rc s).1.inner.length = s.inner.length :=
  (den_ind hg hn).ifBody

theorem den_ifLoopBody (hg : GlobRel g rg) (hn : GNames g) : ∀ (l : List IfLoopStmt) (lEnd lb le : Name) (rc bc cc : Bool),
    IfLoopStmt.anaOKL l = true → ∀ s ss, DRel g R s ss → (ifLoopBody g l lEnd lb le rc bc cc s).1.errors = s.errors →
      DRel g R (ifLoopBody g l lEnd lb le rc bc cc s).1 (specIfLoopBody false rg l ss) ∧
      (ifLoopBody g l lEnd lb le rc bc cc s).1.inner.length = s.inner.length :=
  (den_ind hg hn).ifLoopBody

theorem den_loopBody (hg : GlobRel g rg) (hn : GNames g) : ∀ (l : List LoopStmt) (lb le : Name) (rc bc cc : Bool),
    LoopStmt.anaOKL l = true → ∀ s ss, DRel g R s ss → (loopBody g l lb le rc bc cc s).1.errors = s.errors →
      DRel g R (loopBody g l lb le rc bc cc s).1 (specLoopBody false rg l ss) ∧
      (loopBody g l lb le rc bc cc s).1.inner.length = s.inner.length :=
  (den_ind hg hn).loopBody

theorem den_nStmt_ok (hg : GlobRel g rg) (hn : GNames g) (K : BodyK) (st : NStmt) (f : Flags)
    (hok : anaOKN K.ll.isSome st = true) : CtD g R (fun s => (nStmt g K st f s).1) (specN false rg st) := by
  exact den_nStmt hg hn K st f hok ((den_ind hg hn).sub st)

end SemVerif
