import SemVerif.Props.C13
/-!
# Lemmas/PanicConv — the converse of C13 on the model

Every statement of a body is analysed whatever errors were reported before it, and the panic field
is never cleared.  Hence a run that ends without the panic field set has met no loop-flavoured
if-body outside a loop in the parts the analyzer visits: `(run p).panic = none → AnaOKB p`.
-/
namespace SemVerif

/-! `anaOK`: `loopOK` on the parts of a body the analyzer actually visits — the else-if of an `if` that
also has an else body is not looked at (the analyzer reports `IfElseDuplicated` and ignores it). -/

mutual
def IfStmt.anaOK (inLoop : Bool) : IfStmt → Bool
  | .mk _ body els elif =>
    IfBodies.anaOK inLoop body &&
    (match els, elif with
     | some eb, _ => IfBodies.anaOK inLoop eb
     | none, some ei => IfStmt.anaOK inLoop ei
     | none, none => true)
def IfBodies.anaOK (inLoop : Bool) : IfBodies → Bool
  | .ifb l => IfBodyStmt.anaOKL inLoop l
  | .loopb l => inLoop && IfLoopStmt.anaOKL l
def IfBodyStmt.anaOKL (inLoop : Bool) : List IfBodyStmt → Bool
  | [] => true
  | .ifS i :: tl => IfStmt.anaOK inLoop i && IfBodyStmt.anaOKL inLoop tl
  | .loop b :: tl => LoopStmt.anaOKL b && IfBodyStmt.anaOKL inLoop tl
  | _ :: tl => IfBodyStmt.anaOKL inLoop tl
def IfLoopStmt.anaOKL : List IfLoopStmt → Bool
  | [] => true
  | .ifS i :: tl => IfStmt.anaOK true i && IfLoopStmt.anaOKL tl
  | .loop b :: tl => LoopStmt.anaOKL b && IfLoopStmt.anaOKL tl
  | _ :: tl => IfLoopStmt.anaOKL tl
def LoopStmt.anaOKL : List LoopStmt → Bool
  | [] => true
  | .ifS i :: tl => IfStmt.anaOK true i && LoopStmt.anaOKL tl
  | .loop b :: tl => LoopStmt.anaOKL b && LoopStmt.anaOKL tl
  | _ :: tl => LoopStmt.anaOKL tl
end

def BodyStmt.anaOKL : List BodyStmt → Bool
  | [] => true
  | .ifS i :: tl => IfStmt.anaOK false i && BodyStmt.anaOKL tl
  | .loop b :: tl => LoopStmt.anaOKL b && BodyStmt.anaOKL tl
  | _ :: tl => BodyStmt.anaOKL tl

def AnaOKB (p : Program) : Bool := p.fnDecls.all fun f => BodyStmt.anaOKL f.body

theorem setPanic_ne (site : Nat) (s : St) : (s.setPanic site).panic ≠ none := by
  unfold St.setPanic
  cases h : s.panic with
  | none => simp
  | some _ => simp [h]

theorem Step.panic_none {s s' : St} (h : Step s s') (hn : s'.panic = none) : s.panic = none := by
  cases h with
  | e h => rw [← h.panic_eq]; exact hn
  | enter => exact hn
  | leave => rw [← panic_leave]; exact hn
  | regLabel => exact hn
  | ctl => exact hn
  | emitRet => exact hn
  | ctlVia => rw [← panic_pushVia]; exact hn
  | setReturn => exact hn
  | setPanic site => exact absurd hn (setPanic_ne site s)

theorem Steps.panic_none {s s' : St} (h : Steps s s') (hn : s'.panic = none) : s.panic = none := by
  induction h with
  | refl => exact hn
  | tail _ st ih => exact ih (st.panic_none hn)

def anaOKN (inLoop : Bool) : NStmt → Bool
  | .ifS i => IfStmt.anaOK inLoop i
  | .loop l => LoopStmt.anaOKL l
  | _ => true

theorem IfBodyStmt.anaOKL_cons (inLoop : Bool) (st : IfBodyStmt) (tl : List IfBodyStmt) :
    IfBodyStmt.anaOKL inLoop (st :: tl) = (anaOKN inLoop st.toN && IfBodyStmt.anaOKL inLoop tl) := by
  cases st <;> rfl

theorem IfLoopStmt.anaOKL_cons (st : IfLoopStmt) (tl : List IfLoopStmt) :
    IfLoopStmt.anaOKL (st :: tl) = (anaOKN true st.toN && IfLoopStmt.anaOKL tl) := by
  cases st <;> rfl

theorem LoopStmt.anaOKL_cons (st : LoopStmt) (tl : List LoopStmt) :
    LoopStmt.anaOKL (st :: tl) = (anaOKN true st.toN && LoopStmt.anaOKL tl) := by
  cases st <;> rfl

theorem BodyStmt.anaOKL_cons (st : BodyStmt) (tl : List BodyStmt) :
    BodyStmt.anaOKL (st :: tl) = (st.split.elim (anaOKN false) (fun _ => true) && BodyStmt.anaOKL tl) := by
  cases st <;> rfl

theorem IfStmt.anaOK_mk (inLoop : Bool) (cond : IfCond) (body : IfBodies) (els : Option IfBodies)
    (elif : Option IfStmt) :
    IfStmt.anaOK inLoop (.mk cond body els elif) =
      (IfBodies.anaOK inLoop body &&
        match els, elif with
        | some eb, _ => IfBodies.anaOK inLoop eb
        | none, some ei => IfStmt.anaOK inLoop ei
        | none, none => true) := by
  cases els <;> cases elif <;> rfl

variable (g : Globals)

theorem pc_nStmt (K : BodyK) (st : NStmt) (f : Flags) (s : St)
    (h : st.Sub (fun i => ∀ le ll s, (ifCondition g i le ll s).panic = none → IfStmt.anaOK ll.isSome i = true)
      (fun l => ∀ lb le rc bc cc s, (loopBody g l lb le rc bc cc s).1.panic = none → LoopStmt.anaOKL l = true))
    (hp : (nStmt g K st f s).1.panic = none) : anaOKN K.ll.isSome st = true := by
  cases st with
  | ifS i => exact h _ _ _ hp
  | loop l =>
    obtain ⟨lb, le, s1, _, h2⟩ := panic_loopWrap (loopBody g l) (forbidden f.rc f.bc f.cc s)
    exact h lb le _ _ _ s1 (h2.symm.trans hp)
  | _ => rfl

theorem pc_ind : BodyInd (fun i => ∀ le ll s, (ifCondition g i le ll s).panic = none → IfStmt.anaOK ll.isSome i = true)
    (fun b => ∀ lEnd ll s, (ifBodies g b lEnd ll s).1.panic = none → IfBodies.anaOK ll.isSome b = true)
    (fun l => ∀ lEnd ll rc s, (ifBody g l lEnd ll rc s).1.panic = none → IfBodyStmt.anaOKL ll.isSome l = true)
    (fun l => ∀ lEnd lb le rc bc cc s,
      (ifLoopBody g l lEnd lb le rc bc cc s).1.panic = none → IfLoopStmt.anaOKL l = true)
    (fun l => ∀ lb le rc bc cc s, (loopBody g l lb le rc bc cc s).1.panic = none → LoopStmt.anaOKL l = true) where
  ifS cond body els elif hbody hels helif le ll s := by
    intro hp
    obtain ⟨lEnd, s1, s3, h1, h2⟩ := ifCondition_split g cond body els elif le ll s
    rw [IfStmt.anaOK_mk, Bool.and_eq_true]
    have hb := fun h3n : s3.panic = none => hbody lEnd ll s1 (h1.panic_eq.2.symm.trans h3n)
    cases els with
    | some eb =>
      obtain ⟨s4, h2⟩ := h2
      have hp := h2.panic_eq.2.symm.trans hp
      exact ⟨hb (h2.panic_eq.1.symm.trans ((steps_ifBodies g eb lEnd ll s4).panic_none hp)), hels eb rfl lEnd ll s4 hp⟩
    | none =>
      cases elif with
      | some ei =>
        have hp := h2.panic_eq.symm.trans hp
        exact ⟨hb ((steps_ifCondition g ei (some lEnd) ll s3).panic_none hp), helif ei rfl _ ll s3 hp⟩
      | none => exact ⟨hb (h2.panic_eq.symm.trans hp), rfl⟩
  ifb l h lEnd ll s := h lEnd ll false s
  loopb l h lEnd
    | some (lb, le), s => h lEnd lb le false false false s
    | none, s => fun hp => absurd hp (setPanic_ne _ s)
  ifNil _ _ _ _ _ := rfl
  ifCons st tl h ht lEnd ll rc s := by
    intro hp
    rw [ifBody_cons] at hp
    rw [IfBodyStmt.anaOKL_cons, Bool.and_eq_true]
    exact ⟨pc_nStmt g _ st.toN _ s h ((steps_ifBody g tl lEnd ll _ _).panic_none hp), ht lEnd ll _ _ hp⟩
  ifLoopNil _ _ _ _ _ _ _ _ := rfl
  ifLoopCons st tl h ht lEnd lb le rc bc cc s := by
    intro hp
    rw [ifLoopBody_cons] at hp
    rw [IfLoopStmt.anaOKL_cons, Bool.and_eq_true]
    have hp' := (steps_ifLoopBody g tl lEnd lb le _ _ _ _).panic_none hp
    exact ⟨pc_nStmt g ⟨some lEnd, some (lb, le)⟩ st.toN _ s h hp', ht lEnd lb le _ _ _ _ hp⟩
  loopNil _ _ _ _ _ _ _ := rfl
  loopCons st tl h ht lb le rc bc cc s := by
    intro hp
    rw [loopBody_cons] at hp
    rw [LoopStmt.anaOKL_cons, Bool.and_eq_true]
    exact ⟨pc_nStmt g ⟨none, some (lb, le)⟩ st.toN _ s h ((steps_loopBody g tl lb le _ _ _ _).panic_none hp),
      ht lb le _ _ _ _ hp⟩

theorem pc_ifCondition : ∀ (i : IfStmt) (le : Option Name) (ll : Option (Name × Name)) (s : St),
    (ifCondition g i le ll s).panic = none → IfStmt.anaOK ll.isSome i = true := (pc_ind g).ifStmt

theorem pc_ifBodies : ∀ (b : IfBodies) (lEnd : Name) (ll : Option (Name × Name)) (s : St),
    (ifBodies g b lEnd ll s).1.panic = none → IfBodies.anaOK ll.isSome b = true := (pc_ind g).bodies

theorem pc_ifBody : ∀ (l : List IfBodyStmt) (lEnd : Name) (ll : Option (Name × Name)) (rc : Bool) (s : St),
    (ifBody g l lEnd ll rc s).1.panic = none → IfBodyStmt.anaOKL ll.isSome l = true := (pc_ind g).ifBody

theorem pc_ifLoopBody : ∀ (l : List IfLoopStmt) (lEnd lb le : Name) (rc bc cc : Bool) (s : St),
    (ifLoopBody g l lEnd lb le rc bc cc s).1.panic = none → IfLoopStmt.anaOKL l = true := (pc_ind g).ifLoopBody

theorem pc_loopBody : ∀ (l : List LoopStmt) (lb le : Name) (rc bc cc : Bool) (s : St),
    (loopBody g l lb le rc bc cc s).1.panic = none → LoopStmt.anaOKL l = true := (pc_ind g).loopBody

theorem pc_bodyStmts (resTy : Ty) (l : List BodyStmt) (rc : Bool) (s : St)
    (hp : (bodyStmts g resTy l rc s).1.panic = none) : BodyStmt.anaOKL l = true := by
  induction l generalizing rc s with
  | nil => rfl
  | cons st tl ih =>
    rw [bodyStmts_cons] at hp
    rw [BodyStmt.anaOKL_cons, Bool.and_eq_true]
    generalize st.split = q at hp ⊢
    cases q with
    | inl n =>
      exact ⟨pc_nStmt g ⟨none, none⟩ n _ s ((pc_ind g).sub n) ((steps_bodyStmts g resTy tl _ _).panic_none hp), ih _ _ hp⟩
    | inr e => exact ⟨rfl, ih _ _ hp⟩

theorem pc_functionBody (f : FnDecl) (h : (functionBody g f).panic = none) : BodyStmt.anaOKL f.body = true := by
  unfold functionBody at h
  dsimp only at h
  have h2 := pc_bodyStmts g f.result.toTy f.body false (initParams f.params St.init)
  generalize bodyStmts g f.result.toTy f.body false (initParams f.params St.init) = q at h h2
  obtain ⟨s2, rc⟩ := q
  cases rc <;> exact h2 h

theorem anaOK_of_no_panic (p : Program) (h : (run p).panic = none) : AnaOKB p = true := by
  unfold run at h
  dsimp only at h
  unfold AnaOKB
  rw [List.all_eq_true]
  intro f hf
  apply pc_functionBody (pass2 p (pass1 p GState.init)).globals f
  apply (firstPanic_eq_none _).mp h
  rw [List.mem_map]
  exact ⟨f, by rw [fns_eq_fnDecls]; exact hf, rfl⟩

end SemVerif
