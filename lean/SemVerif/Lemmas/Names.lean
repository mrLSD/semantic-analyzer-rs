import SemVerif.BlockState
/-!
# Lemmas/Names — the probe loops return a name that is not in use, and never run out of fuel

`setAttrCounter n` always has the form `a ++ "." ++ showNat m` with `a` free of dots, and on such a
name it is the successor `a ++ "." ++ showNat (m+1)`; decimal printing is injective; so the
candidates of a probe are pairwise distinct and at most `|registry|` of them can be taken.
-/
namespace SemVerif

theorem digitChar_toNat : ∀ d, d < 10 → (digitChar d).toNat = 48 + d := by decide

theorem digitChar_isDigit : ∀ d, d < 10 → isDigit (digitChar d) = true := by decide

theorem digitsVal_append (xs : List Char) (c : Char) (acc : Nat) :
    digitsVal (xs ++ [c]) acc = digitsVal xs acc * 10 + (c.toNat - 48) := by
  induction xs generalizing acc with
  | nil => rfl
  | cons x xs ih => exact ih _

theorem digitsVal_append_digit (xs : List Char) {d : Nat} (h : d < 10) :
    digitsVal (xs ++ [digitChar d]) 0 = digitsVal xs 0 * 10 + d := by
  rw [digitsVal_append, digitChar_toNat d h, Nat.add_sub_cancel_left]

theorem showNatF_succ (fuel n : Nat) : showNatF (fuel + 1) n =
    if n < 10 then [digitChar n] else showNatF fuel (n / 10) ++ [digitChar (n % 10)] := rfl

theorem showNatF_spec : ∀ (fuel n : Nat), n ≤ fuel →
    digitsVal (showNatF fuel n) 0 = n ∧ (showNatF fuel n).all isDigit = true ∧ showNatF fuel n ≠ [] := by
  intro fuel
  induction fuel with
  | zero =>
    intro n hn
    rw [Nat.le_zero.mp hn]
    exact ⟨rfl, rfl, List.cons_ne_nil _ _⟩
  | succ fuel ih =>
    intro n hn
    rw [showNatF_succ]
    by_cases h10 : n < 10
    · rw [if_pos h10]
      refine ⟨(digitsVal_append_digit [] h10).trans (Nat.zero_add n), ?_, List.cons_ne_nil _ _⟩
      rw [List.all_cons, digitChar_isDigit n h10]
      rfl
    · rw [if_neg h10]
      have hpos : 0 < n := Nat.lt_of_lt_of_le (by decide : 0 < 10) (Nat.le_of_not_lt h10)
      have hlt : n / 10 < fuel + 1 := Nat.lt_of_lt_of_le (Nat.div_lt_self hpos (by decide)) hn
      obtain ⟨hv, hd, _⟩ := ih (n / 10) (Nat.le_of_lt_succ hlt)
      have hm : n % 10 < 10 := Nat.mod_lt _ (by decide)
      refine ⟨?_, ?_, List.append_ne_nil_of_right_ne_nil _ (List.cons_ne_nil _ _)⟩
      · rw [digitsVal_append_digit _ hm, hv]
        exact Nat.div_add_mod' n 10
      · rw [List.all_append, hd, List.all_cons, digitChar_isDigit _ hm]
        rfl

theorem isDigit_ne {c c' : Char} (h : isDigit c = true) (h' : isDigit c' = false) : c ≠ c' := by
  intro e
  rw [e, h'] at h
  exact Bool.noConfusion h

theorem showNat_nodot (n : Nat) : ∀ c ∈ showNat n, c ≠ '.' := fun c hc =>
  isDigit_ne (List.all_eq_true.mp (showNatF_spec n n (Nat.le_refl n)).2.1 c hc) rfl

theorem stripPlus_of_ne (x : Char) (xs : Name) (hx : x ≠ '+') : stripPlus (x :: xs) = x :: xs := by
  unfold stripPlus
  split
  · rename_i rest heq; injection heq with h1 _; exact absurd h1 hx
  · rfl

theorem parseU64_digits {ds : Name} (hne : ds ≠ []) (hd : ds.all isDigit = true) :
    parseU64 ds = digitsVal ds 0 := by
  cases ds with
  | nil => exact absurd rfl hne
  | cons x xs =>
    have hx : x ≠ '+' := isDigit_ne (List.all_eq_true.mp hd x List.mem_cons_self) rfl
    unfold parseU64
    simp only [stripPlus_of_ne x xs hx, hd]
    rfl

theorem parseU64_showNat (n : Nat) : parseU64 (showNat n) = n := by
  obtain ⟨hv, hd, hne⟩ := showNatF_spec n n (Nat.le_refl n)
  exact (parseU64_digits hne hd).trans hv

theorem showNat_injective {a b : Nat} (h : showNat a = showNat b) : a = b := by
  have := congrArg parseU64 h
  rwa [parseU64_showNat, parseU64_showNat] at this

theorem splitDot_head (n : Name) : ∃ a rest, splitDot n = a :: rest ∧ ∀ c ∈ a, c ≠ '.' := by
  induction n with
  | nil => exact ⟨[], [], rfl, fun _ h => nomatch h⟩
  | cons c cs ih =>
    obtain ⟨a, rest, hs, ha⟩ := ih
    show ∃ a rest, (if c = '.' then [] :: splitDot cs else consHead c (splitDot cs)) = a :: rest ∧ _
    by_cases hc : c = '.'
    · rw [if_pos hc]
      exact ⟨[], _, rfl, fun _ h => nomatch h⟩
    · rw [if_neg hc, hs]
      refine ⟨c :: a, rest, rfl, fun x hx => ?_⟩
      rcases List.mem_cons.mp hx with h | h
      · exact h ▸ hc
      · exact ha x h

theorem splitDot_ne_nil (n : Name) : splitDot n ≠ [] := by
  obtain ⟨a, rest, hs, _⟩ := splitDot_head n
  rw [hs]
  exact List.cons_ne_nil a rest

theorem splitDot_nodot (a : Name) (h : ∀ c ∈ a, c ≠ '.') : splitDot a = [a] := by
  induction a with
  | nil => rfl
  | cons c cs ih =>
    show (if c = '.' then [] :: splitDot cs else consHead c (splitDot cs)) = _
    rw [if_neg (h c List.mem_cons_self), ih fun x hx => h x (List.mem_cons_of_mem c hx)]
    rfl

theorem splitDot_append (a b : Name) (h : ∀ c ∈ a, c ≠ '.') :
    splitDot (a ++ '.' :: b) = a :: splitDot b := by
  induction a with
  | nil => rfl
  | cons c cs ih =>
    show (if c = '.' then [] :: splitDot (cs ++ '.' :: b) else consHead c (splitDot (cs ++ '.' :: b))) = _
    rw [if_neg (h c List.mem_cons_self), ih fun x hx => h x (List.mem_cons_of_mem c hx)]
    rfl

theorem setAttrCounter_form (n : Name) :
    ∃ a m, (∀ c ∈ a, c ≠ '.') ∧ setAttrCounter n = a ++ '.' :: showNat m := by
  obtain ⟨a, rest, hs, ha⟩ := splitDot_head n
  unfold setAttrCounter
  rw [hs]
  match rest with
  | [] => exact ⟨a, 0, ha, rfl⟩
  | [b] => exact ⟨a, parseU64 b + 1, ha, rfl⟩
  | b :: c :: r => exact ⟨a, 0, ha, rfl⟩

theorem setAttrCounter_succ (a : Name) (m : Nat) (ha : ∀ c ∈ a, c ≠ '.') :
    setAttrCounter (a ++ '.' :: showNat m) = a ++ '.' :: showNat (m + 1) := by
  unfold setAttrCounter
  rw [splitDot_append a _ ha, splitDot_nodot _ (showNat_nodot m)]
  show a ++ '.' :: showNat (parseU64 (showNat m) + 1) = _
  rw [parseU64_showNat]

/-- The candidates after `n` are `a.m`, `a.(m+1)`, …; `L` holds every one of them that is in use.  A
candidate in use is struck from `L` before the next is tried: none comes twice, so `|L|` bounds the
number of tries. -/
theorem probeInnerF_fresh (used : Name → Bool) (a : Name) (ha : ∀ c ∈ a, c ≠ '.') :
    ∀ (fuel : Nat) (n : Name) (m : Nat) (L : List Name),
      setAttrCounter n = a ++ '.' :: showNat m →
      (∀ j, m ≤ j → used (a ++ '.' :: showNat j) = true → (a ++ '.' :: showNat j) ∈ L) →
      L.length < fuel → used (probeInnerF used fuel n) = false := by
  intro fuel
  induction fuel with
  | zero => exact fun _ _ _ _ _ h => absurd h (Nat.not_lt_zero _)
  | succ fuel ih =>
    intro n m L hn hL hlen
    show used (if used (setAttrCounter n) then probeInnerF used fuel (setAttrCounter n) else setAttrCounter n)
      = false
    cases hu : used (setAttrCounter n) with
    | false => exact hu
    | true =>
      rw [if_pos rfl, hn]
      rw [hn] at hu
      have hmem := hL m (Nat.le_refl m) hu
      refine ih _ (m + 1) (L.erase (a ++ '.' :: showNat m)) (setAttrCounter_succ a m ha) ?_ ?_
      · intro j hj hused
        refine (List.mem_erase_of_ne fun heq => ?_).mpr (hL j (Nat.le_of_succ_le hj) hused)
        have hjm : j = m := showNat_injective (List.cons.inj (List.append_cancel_left heq)).2
        exact Nat.lt_irrefl m (hjm ▸ hj)
      · rw [List.length_erase_of_mem hmem]
        exact Nat.sub_one_lt_of_le (List.length_pos_of_mem hmem) (Nat.le_of_lt_succ hlen)

/-- `get_next_inner_name` with enough fuel returns a name that is not in use -/
theorem probeInner_fresh (used : Name → Bool) (L : List Name) (hL : ∀ n, used n = true → n ∈ L)
    (fuel : Nat) (hf : L.length < fuel) (n : Name) : used (probeInnerF used fuel n) = false := by
  obtain ⟨a, m, ha, hform⟩ := setAttrCounter_form n
  exact probeInnerF_fresh used a ha fuel n m L hform (fun j _ h => hL _ h) hf

theorem probeLabel_fresh (used : Name → Bool) (L : List Name) (hL : ∀ n, used n = true → n ∈ L)
    (fuel : Nat) (hf : L.length < fuel) (stem : Name) : used (probeLabelF used fuel stem) = false := by
  unfold probeLabelF
  cases h : used stem with
  | false => exact h
  | true => exact probeInner_fresh used L hL fuel hf stem

/-- the names some frame holds in its field `f` can be listed, and the list is as long as the registry
count that the probes take as fuel -/
theorem frames_used_bound {β : Type} (f : β → List Name) (l : List β) :
    ∃ L : List Name, (∀ n, (l.any fun b => (f b).contains n) = true → n ∈ L) ∧
      L.length < (l.map fun b => (f b).length).sum + 1 := by
  refine ⟨l.flatMap f, fun n hn => ?_, ?_⟩
  · obtain ⟨b, hb, hc⟩ := List.any_eq_true.mp hn
    exact List.mem_flatMap.mpr ⟨b, hb, List.contains_iff_mem.mp hc⟩
  · rw [List.length_flatMap]
    exact Nat.lt_succ_self _

theorem St.probeInner_fresh (s : St) (n : Name) : s.innerUsed (s.probeInner n) = false := by
  obtain ⟨L, hL, hlen⟩ := frames_used_bound Block.innerNames s.frames
  exact SemVerif.probeInner_fresh s.innerUsed L hL _ hlen n

theorem St.probeLabel_fresh (s : St) (stem : Name) : s.labelUsed (s.probeLabel stem).1 = false := by
  obtain ⟨L, hL, hlen⟩ := frames_used_bound Block.labels s.frames
  exact SemVerif.probeLabel_fresh s.labelUsed L hL _ hlen stem

end SemVerif
