import SemVerif.Lemmas.T1Stmt
import SemVerif.Lemmas.BodySpec
/-!
# Lemmas/T1Ctl — verdict simulation (family T1), control constructs and nested bodies

Labels, jumps and label probes report nothing and leave the value tables alone (`Inert`), so the
prologues and epilogues of `if` and `loop` only matter through the block they enter or leave
(`sim_block`).  One statement of a nested body is `sim_nStmt`; `sim_ind` puts the cases of the
induction over nested bodies (`BodyInd`) together.
-/
namespace SemVerif

/-- post-condition of a successful statement-level step.  The count of live blocks is carried so that
the `leave` closing a block finds one to drop (`inner_ne_of_len` in `sim_block`). -/
def Post (s s' : St) (rs' : RS) : Prop := ScopeRel s' rs'.scope ∧ s'.inner.length = s.inner.length

def Inert (s s' : St) : Prop := s'.errors = s.errors ∧ s'.vals = s.vals ∧ s'.inner.length = s.inner.length

theorem Inert.refl (s : St) : Inert s s := ⟨rfl, rfl, rfl⟩

theorem Inert.trans {a b c : St} (h1 : Inert a b) (h2 : Inert b c) : Inert a c :=
  ⟨h2.1.trans h1.1, h2.2.1.trans h1.2.1, h2.2.2.trans h1.2.2⟩

theorem Inert.ite {s a b : St} (c : Bool) (ha : Inert s a) (hb : Inert s b) : Inert s (if c then a else b) := by
  cases c
  · exact hb
  · exact ha

theorem Inert.scopeRel {s s' : St} {sc : Scope} (h : Inert s s') (hs : ScopeRel s sc) : ScopeRel s' sc :=
  scopeRel_of_sameVals hs h.2.1

theorem Inert.entered {s s' : St} (h : Inert s.enter s') :
    s'.errors = s.errors ∧ s'.vals = [] :: s.vals ∧ s'.inner.length = s.inner.length + 1 :=
  ⟨h.1, h.2.1.trans (vals_enter s), h.2.2⟩

theorem Inert.leave {s s' : St} (h : Inert s s') (hin : s.inner ≠ []) :
    s'.leave.2.errors = s.errors ∧ s'.leave.2.vals = s.vals.tail ∧ s'.leave.2.inner.length + 1 = s.inner.length := by
  have hin' : s'.inner ≠ [] := fun hn => hin (List.eq_nil_of_length_eq_zero (by rw [← h.2.2, hn]; rfl))
  exact ⟨(leave_errors s').trans h.1, (vals_leave s' hin').trans (congrArg List.tail h.2.1),
    (inner_length_leave s' hin').trans h.2.2⟩

theorem probeLabel_fields (stem : Name) (s : St) :
    (s.probeLabel stem).2.errors = s.errors ∧ (s.probeLabel stem).2.inner.length = s.inner.length :=
  ⟨rfl, inner_len_mapFrames _ s⟩

theorem inert_push (i : Instr) (s : St) : Inert s (s.push i) := ⟨rfl, vals_push i s, (push_fields i s).2⟩

theorem inert_pushVia (k : Nat) (i : Instr) (s : St) : Inert s (s.pushVia k i) :=
  ⟨pushVia_errors k i s, vals_pushVia k i s, (pushVia_fields k i s).2⟩

theorem inert_probeLabel (stem : Name) (s : St) : Inert s (s.probeLabel stem).2 :=
  ⟨rfl, vals_probeLabel stem s, (probeLabel_fields stem s).2⟩

theorem inert_ifLabels (le : Option Name) (s : St) : Inert s.enter (ifLabels le s).2.2.2 := by
  unfold ifLabels
  dsimp only
  have h := (inert_probeLabel "if_begin".toList s.enter).trans (inert_probeLabel "if_else".toList _)
  cases le
  · exact h.trans (inert_probeLabel "if_end".toList _)
  · exact h

theorem ifLabels_fields (le : Option Name) (s : St) :
    (ifLabels le s).2.2.2.errors = s.errors ∧ (ifLabels le s).2.2.2.vals = [] :: s.vals ∧
    (ifLabels le s).2.2.2.inner.length = s.inner.length + 1 :=
  (inert_ifLabels le s).entered

theorem ifAfterBody_fields (isElse r : Bool) (lElse lEnd : Name) (s : St) (hin : s.inner ≠ []) :
    (ifAfterBody isElse r lElse lEnd s).2.errors = s.errors ∧
    (ifAfterBody isElse r lElse lEnd s).2.vals = s.vals.tail ∧
    (ifAfterBody isElse r lElse lEnd s).2.inner.length + 1 = s.inner.length := by
  unfold ifAfterBody
  exact Inert.leave (.trans (.ite r (.refl s) (inert_push _ s)) (.ite isElse (inert_push _ _) (.refl _))) hin

theorem ifAfterElse_fields (k : Nat) (r : Bool) (lEnd : Name) (s : St) (hin : s.inner ≠ []) :
    (ifAfterElse k r lEnd s).errors = s.errors ∧ (ifAfterElse k r lEnd s).vals = s.vals.tail ∧
    (ifAfterElse k r lEnd s).inner.length + 1 = s.inner.length := by
  unfold ifAfterElse
  obtain ⟨he, hv, hl⟩ := Inert.ite r (.refl s.leave.2) (inert_pushVia k (.jumpTo lEnd) s.leave.2)
  exact ⟨he.trans (leave_errors s), hv.trans (vals_leave s hin), by rw [hl]; exact inner_length_leave s hin⟩

theorem ifEpilogue_fields (k : Nat) (le : Option Name) (lEnd : Name) (s : St) :
    (ifEpilogue k le lEnd s).errors = s.errors ∧ (ifEpilogue k le lEnd s).vals = s.vals ∧
    (ifEpilogue k le lEnd s).inner.length = s.inner.length := by
  unfold ifEpilogue
  exact Inert.ite _ (.refl s) (inert_pushVia _ _ s)

theorem loopPrologue_fields (s : St) :
    (loopPrologue s).2.2.errors = s.errors ∧ (loopPrologue s).2.2.vals = [] :: s.vals ∧
    (loopPrologue s).2.2.inner.length = s.inner.length + 1 := by
  unfold loopPrologue
  dsimp only
  exact Inert.entered ((((inert_probeLabel "loop_begin".toList s.enter).trans (inert_probeLabel "loop_end".toList _)).trans
    (inert_push _ _)).trans (inert_push _ _))

theorem loopEpilogue_fields (r : Bool) (lb le : Name) (s : St) (hin : s.inner ≠ []) :
    (loopEpilogue r lb le s).errors = s.errors ∧ (loopEpilogue r lb le s).vals = s.vals.tail ∧
    (loopEpilogue r lb le s).inner.length + 1 = s.inner.length := by
  unfold loopEpilogue
  exact Inert.leave (.ite r (.refl s) ((inert_push _ s).trans (inert_push _ _))) hin

theorem post_trans {s s1 s2 : St} {rs2 : RS} (h1 : s1.inner.length = s.inner.length) (h2 : Post s1 s2 rs2) : Post s s2 rs2 :=
  ⟨h2.1, by rw [h2.2, h1]⟩

theorem StmtSim.silent {s s' : St} {rs rs' : RS} {P : Prop} (he : s'.errors = s.errors) (hv : rs'.viols = rs.viols) (hp : P) :
    StmtSim s s' rs rs' P := ⟨[], by rw [hv, List.append_nil], Or.inl ⟨rfl, he, hp⟩⟩

theorem StmtSim.seqPost {b s s1 s2 : St} {rs r1 r2 : RS} (h1 : StmtSim s s1 rs r1 (Post b s1 r1))
    (h2 : ScopeRel s1 r1.scope → StmtSim s1 s2 r1 r2 (Post s1 s2 r2)) (ma : ∃ Δ, s2.errors = s1.errors ++ Δ)
    (mc : RExt r1 r2) : StmtSim s s2 rs r2 (Post b s2 r2) :=
  h1.seq (fun hp => (h2 hp.1).weaken (post_trans hp.2)) ma mc

theorem StmtSim.thenInert {b s s1 s2 : St} {rs r1 : RS} (h : StmtSim s s1 rs r1 (Post b s1 r1)) (hq : Inert s1 s2) :
    StmtSim s s2 rs r1 (Post b s2 r1) :=
  h.of_eq hq.1 rfl fun hp => ⟨hq.scopeRel hp.1, hq.2.2.trans hp.2⟩

theorem scopeRel_enter_push {s : St} {rs : RS} (h : ScopeRel s rs.scope) : ScopeRel s.enter rs.push.scope :=
  scopeRel_enter h

theorem StmtSim.thenEnter {b s s0 s1 : St} {rs r0 : RS} (h : StmtSim s s0 rs r0 (Post b s0 r0)) (hq : Inert s0.enter s1) :
    StmtSim s s1 rs r0.push (Post b.enter s1 r0.push) :=
  h.of_eq hq.1 rfl fun hp => ⟨hq.scopeRel (scopeRel_enter_push hp.1), hq.2.2.trans (congrArg (· + 1) hp.2)⟩

theorem scopeRel_leave {s : St} {rs : RS} (h : ScopeRel s rs.scope) (hin : s.inner ≠ []) :
    ScopeRel s.leave.2 rs.pop.scope := by
  unfold ScopeRel
  rw [vals_leave s hin]
  exact scopeRel_tail h

/-- a block: entered (`h1`; `Post s.enter` says one live block more than at `s`), its body (`hb`), then
a step `s2 → s3` that drops the block's frame while the checker pops its scope -/
theorem sim_block {s s1 s2 s3 : St} {rs r1 r2 : RS} (h1 : StmtSim s s1 rs r1 (Post s.enter s1 r1))
    (hb : ScopeRel s1 r1.scope → StmtSim s1 s2 r1 r2 (Post s1 s2 r2)) (m2 : ∃ Δ, s2.errors = s1.errors ++ Δ)
    (c2 : RExt r1 r2) (m3 : ∃ Δ, s3.errors = s2.errors ++ Δ)
    (hf : s2.inner ≠ [] → s3.errors = s2.errors ∧ s3.vals = s2.vals.tail ∧ s3.inner.length + 1 = s2.inner.length) :
    StmtSim s s3 rs r2.pop (Post s s3 r2.pop) := by
  refine (h1.seqPost hb m2 c2).seq (fun hp => ?_) m3 (rext_pop r2)
  obtain ⟨he, hv, hl⟩ := hf (inner_ne_of_len hp.2)
  refine StmtSim.silent he rfl ⟨?_, Nat.add_right_cancel (hl.trans hp.2)⟩
  unfold ScopeRel; rw [hv]; exact scopeRel_tail hp.1

variable {g : Globals} {rg : RGlobals}

theorem sim_let' (hg : GlobRel g rg) (b : LetB) (s : St) (rs : RS) (hs : ScopeRel s rs.scope) :
    StmtSim s (letBinding g b s) rs (checkLet rg b rs) (Post s (letBinding g b s) (checkLet rg b rs)) :=
  (sim_let hg b s rs hs).weaken fun hp => ⟨hp, (esteps_letBinding g b s).inner_len⟩

theorem sim_bind' (hg : GlobRel g rg) (b : Bind) (s : St) (rs : RS) (hs : ScopeRel s rs.scope) :
    StmtSim s (binding g b s) rs (checkBind rg b rs) (Post s (binding g b s) (checkBind rg b rs)) :=
  (sim_bind hg b s rs hs).weaken fun hp => ⟨hp, (esteps_binding g b s).inner_len⟩

theorem sim_callS' (hg : GlobRel g rg) (c : CallS) (s : St) (rs : RS) (hs : ScopeRel s rs.scope) :
    StmtSim s (callStmt g c s) rs (checkCallS rg c rs) (Post s (callStmt g c s) (checkCallS rg c rs)) :=
  (sim_callS hg c s rs hs).weaken fun hp => ⟨hp, (esteps_callStmt g c s).inner_len⟩

theorem sim_ifCondCalc (hg : GlobRel g rg) (c : IfCond) (lb le ln : Name) (isElse : Bool)
    (s : St) (rs : RS) (hs : ScopeRel s rs.scope) :
    StmtSim s (ifCondCalc g c lb le ln isElse s) rs (checkIfCond rg c rs)
      (Post s (ifCondCalc g c lb le ln isElse s) (checkIfCond rg c rs)) := by
  refine StmtSim.weaken ?_ fun hp => ⟨hp, (esteps_ifCondCalc g c lb le ln isElse s).inner_len⟩
  unfold ifCondCalc checkIfCond
  cases c with
  | single e =>
    dsimp only
    have h := (sim_exprM hg rs.scope e).run s hs
    generalize exprM g e s = p at h ⊢
    obtain ⟨a, s1⟩ := p
    cases a with
    | none => exact sim_afterExpr hs h rfl rfl
    | some r => exact sim_afterExpr hs h rfl (vals_push _ _)
  | logic lc => exact sim_afterExpr hs (sim_logic hg rs.scope lc s hs) rfl (vals_push _ _)

theorem sim_ifPrologue (hg : GlobRel g rg) (cond : IfCond) (dup isElse : Bool)
    (le : Option Name) (s : St) (rs : RS) (hs : ScopeRel s rs.scope) :
    StmtSim s (ifPrologue g cond dup isElse le s).2.2 rs
      (checkIfCond rg cond (if dup then rs.viol "B10" .ifElseDuplicated "if-condition".toList else rs).push)
      (Post s.enter (ifPrologue g cond dup isElse le s).2.2
        (checkIfCond rg cond (if dup then rs.viol "B10" .ifElseDuplicated "if-condition".toList else rs).push)) := by
  unfold ifPrologue
  dsimp only
  have h0 : StmtSim s _ rs _ (Post s _ _) :=
    (sim_optErr dup s rs .ifElseDuplicated "if-condition".toList 1 0 "B10" hs).weaken fun hp => ⟨hp, by cases dup <;> rfl⟩
  exact ((h0.thenEnter (inert_ifLabels le _)).seqPost (sim_ifCondCalc hg cond _ _ _ isElse _ _)
    (esteps_ifCondCalc g cond _ _ _ isElse _).errors_ext (rext_checkIfCond rg cond _)).thenInert (inert_push _ _)

theorem sim_loopWrap (k : Name → Name → Bool → Bool → Bool → St → St × Bool) (kc : RS → RS)
    (hk : ∀ lb le s rs, ScopeRel s rs.scope → StmtSim s (k lb le false false false s).1 rs (kc rs) (Post s (k lb le false false false s).1 (kc rs)))
    (hka : ∀ lb le s, ∃ Δ, (k lb le false false false s).1.errors = s.errors ++ Δ) (hkc : ∀ rs, RExt rs (kc rs))
    (s : St) (rs : RS) (hs : ScopeRel s rs.scope) :
    StmtSim s (loopWrap k s) rs (kc rs.push).pop (Post s (loopWrap k s) (kc rs.push).pop) := by
  unfold loopWrap
  dsimp only
  have hq : Inert s.enter (loopPrologue s).2.2 := loopPrologue_fields s
  exact sim_block ((StmtSim.refl s rs ⟨hs, rfl⟩).thenEnter hq) (hk _ _ _ _) (hka _ _ _) (hkc _) (steps_loopEpilogue _ _ _ _).errors_ext
    (loopEpilogue_fields _ _ _ _)

theorem sim_nStmt (hg : GlobRel g rg) (resTy : Ty) (K : BodyK) (st : NStmt) (f : Flags) (s : St) (rs : RS)
    (hok : loopOKN K.ll.isSome st = true)
    (h : st.Sub
      (fun i => ∀ le ll s rs, IfStmt.loopOK ll.isSome i = true → ScopeRel s rs.scope →
        StmtSim s (ifCondition g i le ll s) rs (checkIf rg resTy i rs) (Post s (ifCondition g i le ll s) (checkIf rg resTy i rs)))
      (fun l => ∀ lb le rc bc cc s rs, LoopStmt.loopOKL l = true → ScopeRel s rs.scope →
        StmtSim s (loopBody g l lb le rc bc cc s).1 rs (checkLoopBody rg resTy l rc bc cc rs)
          (Post s (loopBody g l lb le rc bc cc s).1 (checkLoopBody rg resTy l rc bc cc rs))))
    (hs : ScopeRel s rs.scope) :
    StmtSim s (nStmt g K st f s).1 rs (checkN rg resTy st f rs).1
      (Post s (nStmt g K st f s).1 (checkN rg resTy st f rs).1 ∧ (nStmt g K st f s).2 = (checkN rg resTy st f rs).2) := by
  unfold nStmt checkN
  have h0 : StmtSim s _ rs _ (Post s _ _) :=
    (sim_forbidden f.rc f.bc f.cc s rs hs).weaken fun hp => ⟨hp, forbidden_len f.rc f.bc f.cc s⟩
  generalize forbidden f.rc f.bc f.cc s = s0 at h0
  generalize codeAfter f.rc f.bc f.cc rs = r0 at h0
  have same : ∀ {s1 : St} {r1 : RS} {f' : Flags}, StmtSim s s1 rs r1 (Post s s1 r1) →
      StmtSim s s1 rs r1 (Post s s1 r1 ∧ f' = f') := fun h => h.weaken fun hp => ⟨hp, rfl⟩
  cases st with
  | letB b => exact same (h0.seqPost (sim_let' hg b s0 r0) (esteps_letBinding g b s0).errors_ext (rext_checkLet rg b r0))
  | bind b => exact same (h0.seqPost (sim_bind' hg b s0 r0) (esteps_binding g b s0).errors_ext (rext_checkBind rg b r0))
  | call c => exact same (h0.seqPost (sim_callS' hg c s0 r0) (esteps_callStmt g c s0).errors_ext (rext_checkCallS rg c r0))
  | ifS i =>
    exact same (h0.seqPost (h K.lEnd K.ll s0 r0 hok) (steps_ifCondition g i _ _ s0).errors_ext (rext_checkIf rg resTy i r0))
  | loop l =>
    exact same (h0.seqPost
      (sim_loopWrap _ _ (fun lb le s rs => h lb le false false false s rs hok)
        (fun lb le s => (steps_loopBody g l lb le false false false s).errors_ext)
        (rext_checkLoopBody rg resTy l false false false) s0 r0)
      (steps_loopWrap _ (steps_loopBody g l) s0).errors_ext (rext_pushpop (rext_checkLoopBody rg resTy l false false false)))
  | ret e =>
    dsimp only
    exact h0.seq (fun hp => (sim_nestedRet hg resTy e s0 r0 hp.1).weaken fun hq =>
        ⟨post_trans hp.2 ⟨hq.1, nestedReturn_len e s0⟩, by rw [hq.2]⟩)
      (steps_nestedReturn g e s0).errors_ext (rext_checkNestedRet rg resTy e r0)
  | brk => exact same (h0.thenInert (inert_push _ s0))
  | cont => exact same (h0.thenInert (inert_push _ s0))

theorem sim_ind (hg : GlobRel g rg) (resTy : Ty) : BodyInd
    (fun i => ∀ le ll s rs, IfStmt.loopOK ll.isSome i = true → ScopeRel s rs.scope →
      StmtSim s (ifCondition g i le ll s) rs (checkIf rg resTy i rs) (Post s (ifCondition g i le ll s) (checkIf rg resTy i rs)))
    (fun b => ∀ lEnd ll s rs, IfBodies.loopOK ll.isSome b = true → ScopeRel s rs.scope →
      StmtSim s (ifBodies g b lEnd ll s).1 rs (checkBodies rg resTy b rs) (Post s (ifBodies g b lEnd ll s).1 (checkBodies rg resTy b rs)))
    (fun l => ∀ lEnd ll rc s rs, IfBodyStmt.loopOKL ll.isSome l = true → ScopeRel s rs.scope →
      StmtSim s (ifBody g l lEnd ll rc s).1 rs (checkIfBody rg resTy l rc rs)
        (Post s (ifBody g l lEnd ll rc s).1 (checkIfBody rg resTy l rc rs)))
    (fun l => ∀ lEnd lb le rc bc cc s rs, IfLoopStmt.loopOKL l = true → ScopeRel s rs.scope →
      StmtSim s (ifLoopBody g l lEnd lb le rc bc cc s).1 rs (checkIfLoopBody rg resTy l rc bc cc rs)
        (Post s (ifLoopBody g l lEnd lb le rc bc cc s).1 (checkIfLoopBody rg resTy l rc bc cc rs)))
    (fun l => ∀ lb le rc bc cc s rs, LoopStmt.loopOKL l = true → ScopeRel s rs.scope →
      StmtSim s (loopBody g l lb le rc bc cc s).1 rs (checkLoopBody rg resTy l rc bc cc rs)
        (Post s (loopBody g l lb le rc bc cc s).1 (checkLoopBody rg resTy l rc bc cc rs))) where
  ifS cond body els elif hb he hi le ll s rs hok hs := by
    rw [IfStmt.loopOK_mk, Bool.and_eq_true, Bool.and_eq_true] at hok
    unfold ifCondition
    dsimp only
    have hA := sim_ifPrologue hg cond (els.isSome && elif.isSome) (els.isSome || elif.isSome) le s rs hs
    generalize ifPrologue g cond (els.isSome && elif.isSome) (els.isSome || elif.isSome) le s = p at hA
    obtain ⟨lElse, lEnd, s1⟩ := p
    dsimp only at hA ⊢
    have hC := sim_block hA (hb lEnd ll s1 _ hok.1.1) (steps_ifBodies g body lEnd ll s1).errors_ext
      (rext_checkBodies rg resTy body _)
      (steps_ifAfterBody (els.isSome || elif.isSome) (ifBodies g body lEnd ll s1).2 lElse lEnd _).errors_ext
      (ifAfterBody_fields _ _ _ _ _)
    generalize ifAfterBody (els.isSome || elif.isSome) (ifBodies g body lEnd ll s1).2 lElse lEnd (ifBodies g body lEnd ll s1).1 =
      q3 at hC
    obtain ⟨k, s3⟩ := q3
    dsimp only at hC ⊢
    refine StmtSim.thenInert ?_ (ifEpilogue_fields k le lEnd _)
    cases els with
    | some eb =>
      exact sim_block (hC.thenEnter (.refl _)) (he eb rfl lEnd ll s3.enter _ hok.1.2)
        (steps_ifBodies g eb lEnd ll s3.enter).errors_ext (rext_checkBodies rg resTy eb _)
        (steps_ifAfterElse k _ lEnd _).errors_ext (ifAfterElse_fields k _ lEnd _)
    | none =>
      cases elif with
      | some ei =>
        exact hC.seqPost (hi ei rfl (some lEnd) ll s3 _ hok.2)
          (steps_ifCondition g ei (some lEnd) ll s3).errors_ext (rext_checkIf rg resTy ei _)
      | none => exact hC
  ifb l h lEnd ll s rs hok hs := h lEnd ll false s rs hok hs
  loopb l h lEnd ll s rs hok hs :=
    match ll, hok with
    | some (lb, le), hok => h lEnd lb le false false false s rs hok hs
    | none, hok => absurd hok Bool.false_ne_true
  ifNil _ _ _ s rs _ hs := StmtSim.refl s rs ⟨hs, rfl⟩
  ifCons st tl h ht lEnd ll rc s rs hok hs := by
    rw [IfBodyStmt.loopOKL_cons, Bool.and_eq_true] at hok
    rw [ifBody_cons, checkIfBody_cons]
    refine (sim_nStmt hg resTy ⟨some lEnd, ll⟩ st.toN _ s rs hok.1 h hs).seq (fun hp => ?_)
      (steps_ifBody g tl lEnd ll _ _).errors_ext (rext_checkIfBody rg resTy tl _ _)
    rw [hp.2]
    exact (ht lEnd ll _ _ _ hok.2 hp.1.1).weaken (post_trans hp.1.2)
  ifLoopNil _ _ _ _ _ _ s rs _ hs := StmtSim.refl s rs ⟨hs, rfl⟩
  ifLoopCons st tl h ht lEnd lb le rc bc cc s rs hok hs := by
    rw [IfLoopStmt.loopOKL_cons, Bool.and_eq_true] at hok
    rw [ifLoopBody_cons, checkIfLoopBody_cons]
    refine (sim_nStmt hg resTy ⟨some lEnd, some (lb, le)⟩ st.toN _ s rs hok.1 h hs).seq (fun hp => ?_)
      (steps_ifLoopBody g tl lEnd lb le _ _ _ _).errors_ext (rext_checkIfLoopBody rg resTy tl _ _ _ _)
    rw [hp.2]
    exact (ht lEnd lb le _ _ _ _ _ hok.2 hp.1.1).weaken (post_trans hp.1.2)
  loopNil _ _ _ _ _ s rs _ hs := StmtSim.refl s rs ⟨hs, rfl⟩
  loopCons st tl h ht lb le rc bc cc s rs hok hs := by
    rw [LoopStmt.loopOKL_cons, Bool.and_eq_true] at hok
    rw [loopBody_cons, checkLoopBody_cons]
    refine (sim_nStmt hg resTy ⟨none, some (lb, le)⟩ st.toN _ s rs hok.1 h hs).seq (fun hp => ?_)
      (steps_loopBody g tl lb le _ _ _ _).errors_ext (rext_checkLoopBody rg resTy tl _ _ _ _)
    rw [hp.2]
    exact (ht lb le _ _ _ _ _ hok.2 hp.1.1).weaken (post_trans hp.1.2)

theorem sim_ifCondition (hg : GlobRel g rg) (resTy : Ty) : ∀ (i : IfStmt) (le : Option Name) (ll : Option (Name × Name))
    (s : St) (rs : RS), IfStmt.loopOK ll.isSome i = true → ScopeRel s rs.scope →
    StmtSim s (ifCondition g i le ll s) rs (checkIf rg resTy i rs) (Post s (ifCondition g i le ll s) (checkIf rg resTy i rs)) :=
  (sim_ind hg resTy).ifStmt

theorem sim_ifBodies (hg : GlobRel g rg) (resTy : Ty) : ∀ (b : IfBodies) (lEnd : Name) (ll : Option (Name × Name))
    (s : St) (rs : RS), IfBodies.loopOK ll.isSome b = true → ScopeRel s rs.scope →
    StmtSim s (ifBodies g b lEnd ll s).1 rs (checkBodies rg resTy b rs) (Post s (ifBodies g b lEnd ll s).1 (checkBodies rg resTy b rs)) :=
  (sim_ind hg resTy).bodies

theorem sim_ifBody (hg : GlobRel g rg) (resTy : Ty) : ∀ (l : List IfBodyStmt) (lEnd : Name) (ll : Option (Name × Name)) (rc : Bool)
    (s : St) (rs : RS), IfBodyStmt.loopOKL ll.isSome l = true → ScopeRel s rs.scope →
    StmtSim s (ifBody g l lEnd ll rc s).1 rs (checkIfBody rg resTy l rc rs)
      (Post s (ifBody g l lEnd ll rc s).1 (checkIfBody rg resTy l rc rs)) :=
  (sim_ind hg resTy).ifBody

theorem sim_ifLoopBody (hg : GlobRel g rg) (resTy : Ty) : ∀ (l : List IfLoopStmt) (lEnd lb le : Name) (rc bc cc : Bool)
    (s : St) (rs : RS), IfLoopStmt.loopOKL l = true → ScopeRel s rs.scope →
    StmtSim s (ifLoopBody g l lEnd lb le rc bc cc s).1 rs (checkIfLoopBody rg resTy l rc bc cc rs)
      (Post s (ifLoopBody g l lEnd lb le rc bc cc s).1 (checkIfLoopBody rg resTy l rc bc cc rs)) :=
  (sim_ind hg resTy).ifLoopBody

theorem sim_loopBody (hg : GlobRel g rg) (resTy : Ty) : ∀ (l : List LoopStmt) (lb le : Name) (rc bc cc : Bool)
    (s : St) (rs : RS), LoopStmt.loopOKL l = true → ScopeRel s rs.scope →
    StmtSim s (loopBody g l lb le rc bc cc s).1 rs (checkLoopBody rg resTy l rc bc cc rs)
      (Post s (loopBody g l lb le rc bc cc s).1 (checkLoopBody rg resTy l rc bc cc rs)) :=
  (sim_ind hg resTy).loopBody

end SemVerif
