import SemVerif.Lemmas.Dts
import SemVerif.Lemmas.StmtSteps
import SemVerif.Spec.Denote
/-!
# Lemmas/ValInv — value tables against direct declarations (C18), list level

`FramesOk dts inner dscope kids`: for every live block, innermost first: its value table is what
inserting its direct declarations so far under the names the source denotation has declared in the
corresponding open block yields; its finished children satisfy the value-table clause for the
shapes the denotation has closed; the declarations of a child's stack are among its own, and
those of the block inside it (`inner`) too.
-/
namespace SemVerif

def foldIns (l : List (Name × Value)) : List (Name × Value) :=
  l.foldl (fun acc (p : Name × Value) => assocInsert p.1 p.2 acc) []

theorem foldIns_snoc (l : List (Name × Value)) (n : Name) (v : Value) :
    foldIns (l ++ [(n, v)]) = assocInsert n v (foldIns l) := by
  unfold foldIns; rw [List.foldl_append]; rfl

def frameNames (fr : List (Name × Nat)) : List Name := fr.reverse.map (·.1)

theorem frameNames_cons (n : Name) (d : Nat) (fr : List (Name × Nat)) : frameNames ((n, d) :: fr) = frameNames fr ++ [n] := by
  simp [frameNames]

structure FrameOk (t : DT) (inner : List Value) (fr : List (Name × Nat)) (kids : List Shape) : Prop where
  len : (frameNames fr).length = (t.directDecls inner).length
  tab : t.values = foldIns ((frameNames fr).zip (t.directDecls inner))
  kids : valuesOkDL kids t.children = true
  sub : ∀ c ∈ t.children, ∀ x ∈ c.decls, x ∈ t.decls

inductive FramesOk : List DT → List Value → List (List (Name × Nat)) → List (List Shape) → Prop
  | nil (inner : List Value) : FramesOk [] inner [] []
  | cons {t : DT} {ts : List DT} {inner : List Value} {fr : List (Name × Nat)} {frs : List (List (Name × Nat))}
      {k : List Shape} {ks : List (List Shape)} :
      FrameOk t inner fr k → (∀ x ∈ inner, x ∈ t.decls) → FramesOk ts t.decls frs ks →
      FramesOk (t :: ts) inner (fr :: frs) (k :: ks)

theorem FramesOk.inv_cons {t : DT} {ts : List DT} {inner : List Value} {frs' : List (List (Name × Nat))} {ks' : List (List Shape)}
    (h : FramesOk (t :: ts) inner frs' ks') :
    ∃ fr frs k ks, frs' = fr :: frs ∧ ks' = k :: ks ∧ FrameOk t inner fr k ∧ (∀ x ∈ inner, x ∈ t.decls) ∧
      FramesOk ts t.decls frs ks := by
  cases h with
  | cons hf hin hrest => exact ⟨_, _, _, _, rfl, rfl, hf, hin, hrest⟩

theorem DT.addDecl_values (v : Value) (t : DT) : (t.addDecl v).values = t.values := by cases t; rfl

theorem DT.addDecl_decls (v : Value) (t : DT) : (t.addDecl v).decls = t.decls ++ [v] := by cases t; rfl

theorem DT.addDecl_children (v : Value) (t : DT) : (t.addDecl v).children = t.children := by cases t; rfl

theorem DT.setValues_values (f : List (Name × Value) → List (Name × Value)) (t : DT) : (t.setValues f).values = f t.values := by cases t; rfl

theorem DT.setValues_decls (f : List (Name × Value) → List (Name × Value)) (t : DT) : (t.setValues f).decls = t.decls := by cases t; rfl

theorem DT.setValues_children (f : List (Name × Value) → List (Name × Value)) (t : DT) : (t.setValues f).children = t.children := by cases t; rfl

theorem dd_def (t : DT) (inner : List Value) :
    t.directDecls inner = t.decls.filter fun v => !(t.children.any fun c => c.decls.contains v) && !(inner.contains v) := rfl

/-- in the block that declares: the new record is direct -/
theorem dd_addDecl_top (t : DT) (v : Value) (hc : ∀ c ∈ t.children, v ∉ c.decls) :
    (t.addDecl v).directDecls [] = t.directDecls [] ++ [v] := by
  rw [dd_def, dd_def, DT.addDecl_decls, DT.addDecl_children, List.filter_append]
  congr 1
  have : (t.children.any fun c => decide (v ∈ c.decls)) = false := by
    rw [List.any_eq_false]
    intro c hc'
    simpa using hc c hc'
  simp [List.filter, this]

/-- in an enclosing block: the new record is also in the stack of the block inside it -/
theorem dd_addDecl_outer (t : DT) (inner : List Value) (v : Value) (hv : v ∉ t.decls) :
    (t.addDecl v).directDecls (inner ++ [v]) = t.directDecls inner := by
  rw [dd_def, dd_def, DT.addDecl_decls, DT.addDecl_children, List.filter_append]
  have h1 : List.filter (fun x => !(t.children.any fun c => c.decls.contains x) && !((inner ++ [v]).contains x)) [v] = [] := by
    simp [List.filter]
  rw [h1, List.append_nil]
  apply List.filter_congr
  intro x hx
  have hne : x ≠ v := fun e => hv (e ▸ hx)
  simp [hne]

theorem dd_setValues (f : List (Name × Value) → List (Name × Value)) (t : DT) (inner : List Value) :
    (t.setValues f).directDecls inner = t.directDecls inner := by cases t; rfl

theorem framesOk_addDecl_tail {v : Value} {ts : List DT} {inner : List Value} {frs : List (List (Name × Nat))}
    {ks : List (List Shape)} (h : FramesOk ts inner frs ks) (hv : ∀ t ∈ ts, v ∉ t.decls) :
    FramesOk (ts.map (DT.addDecl v)) (inner ++ [v]) frs ks := by
  induction h with
  | nil inner => exact FramesOk.nil _
  | @cons t ts inner fr frs k ks hf hin _ ih =>
    have hvt : v ∉ t.decls := hv t List.mem_cons_self
    rw [List.map_cons]
    refine FramesOk.cons ⟨?_, ?_, ?_, ?_⟩ ?_ ?_
    · rw [dd_addDecl_outer t inner v hvt]; exact hf.len
    · rw [dd_addDecl_outer t inner v hvt, DT.addDecl_values]; exact hf.tab
    · rw [DT.addDecl_children]; exact hf.kids
    · rw [DT.addDecl_children, DT.addDecl_decls]
      exact fun c hc x hx => List.mem_append_left _ (hf.sub c hc x hx)
    · rw [DT.addDecl_decls]
      intro x hx
      rcases List.mem_append.mp hx with hx | hx
      · exact List.mem_append_left _ (hin x hx)
      · exact List.mem_append_right _ hx
    · rw [DT.addDecl_decls]
      exact ih fun t' ht' => hv t' (List.mem_cons_of_mem _ ht')

theorem framesOk_declare {t : DT} {ts : List DT} {fr : List (Name × Nat)} {frs : List (List (Name × Nat))}
    {k : List Shape} {ks : List (List Shape)} (h : FramesOk (t :: ts) [] (fr :: frs) (k :: ks))
    (n : Name) (v : Value) (d : Nat) (hv : ∀ t' ∈ t :: ts, v ∉ t'.decls) :
    FramesOk (((t.setValues (assocInsert n v)).addDecl v) :: ts.map (DT.addDecl v)) [] (((n, d) :: fr) :: frs) (k :: ks) := by
  cases h with
  | cons hf hin hrest =>
    have hvt : v ∉ t.decls := hv t List.mem_cons_self
    have hch : ∀ c ∈ t.children, v ∉ c.decls := fun c hc hx => hvt (hf.sub c hc v hx)
    have hdd : ((t.setValues (assocInsert n v)).addDecl v).directDecls [] = t.directDecls [] ++ [v] := by
      rw [dd_addDecl_top _ _ (by rw [DT.setValues_children]; exact hch), dd_setValues]
    refine FramesOk.cons ⟨?_, ?_, ?_, ?_⟩ (by intro x hx; cases hx) ?_
    · rw [hdd, frameNames_cons, List.length_append, List.length_append, hf.len]
      rfl
    · rw [hdd, frameNames_cons, DT.addDecl_values, DT.setValues_values,
        List.zip_append hf.len, hf.tab]
      exact (foldIns_snoc _ n v).symm
    · rw [DT.addDecl_children, DT.setValues_children]; exact hf.kids
    · rw [DT.addDecl_children, DT.setValues_children, DT.addDecl_decls, DT.setValues_decls]
      intro c hc x hx
      exact List.mem_append_left _ (hf.sub c hc x hx)
    · have := framesOk_addDecl_tail (v := v) hrest (fun t' ht' => hv t' (List.mem_cons_of_mem _ ht'))
      rw [DT.addDecl_decls, DT.setValues_decls]
      exact this

theorem framesOk_enter {ts : List DT} {frs : List (List (Name × Nat))} {ks : List (List Shape)}
    (h : FramesOk ts [] frs ks) : FramesOk (.node [] [] [] :: ts) [] ([] :: frs) ([] :: ks) := by
  exact FramesOk.cons ⟨rfl, rfl, rfl, fun c hc => nomatch hc⟩ (fun x hx => nomatch hx) h

theorem keys_assocInsert_mem (k : Name) (v : Value) (l : List (Name × Value)) (x : Name)
    (h : x ∈ (assocInsert k v l).map (·.1)) : x = k ∨ x ∈ l.map (·.1) := by
  obtain ⟨p, hp, rfl⟩ := List.mem_map.mp h
  rcases mem_assocInsert k v l p hp with rfl | hp
  · exact Or.inl rfl
  · exact Or.inr (List.mem_map_of_mem hp)

theorem keys_assocInsert_nodup (k : Name) (v : Value) (l : List (Name × Value)) (h : (l.map (·.1)).Nodup) :
    ((assocInsert k v l).map (·.1)).Nodup := by
  induction l with
  | nil => exact List.nodup_cons.mpr ⟨List.not_mem_nil, List.nodup_nil⟩
  | cons p rest ih =>
    have h' := List.nodup_cons.mp h
    show ((if k = p.1 then (k, v) :: rest else (p.1, p.2) :: assocInsert k v rest).map (·.1)).Nodup
    by_cases hk : k = p.1
    · rw [if_pos hk, hk]; exact h
    · rw [if_neg hk]
      refine List.nodup_cons.mpr ⟨fun hm => ?_, ih h'.2⟩
      rcases keys_assocInsert_mem k v rest p.1 hm with e | e
      · exact hk e.symm
      · exact h'.1 e

theorem foldIns_nodup : ∀ (l : List (Name × Value)) (acc : List (Name × Value)), (acc.map (·.1)).Nodup →
    ((l.foldl (fun acc (p : Name × Value) => assocInsert p.1 p.2 acc) acc).map (·.1)).Nodup
  | [], _, h => h
  | p :: l, acc, h => foldIns_nodup l _ (keys_assocInsert_nodup p.1 p.2 acc h)

theorem assocGet_of_mem_nodup (l : List (Name × Value)) (n : Name) (v : Value) (hnd : (l.map (·.1)).Nodup)
    (h : (n, v) ∈ l) : assocGet n l = some v := by
  induction l with
  | nil => cases h
  | cons p rest ih =>
    have hnd' := List.nodup_cons.mp hnd
    show (if n = p.1 then some p.2 else assocGet n rest) = some v
    rcases List.mem_cons.mp h with h | h
    · rw [← h, if_pos rfl]
    · have hne : n ≠ p.1 := fun e => hnd'.1 (List.mem_map.mpr ⟨(n, v), h, e⟩)
      rw [if_neg hne]
      exact ih hnd'.2 h

theorem tabOk_of_eq (names : List Name) (values : List (Name × Value)) (D : List Value)
    (hl : names.length = D.length) (he : values = foldIns (names.zip D)) : tabOk names values D = true := by
  unfold tabOk
  have hf : (names.zip D).foldl (fun acc (x : Name × Value) => match x with | (n, v) => assocInsert n v acc) [] = foldIns (names.zip D) := by
    unfold foldIns
    congr 1
  simp only [hf, ← he, hl, beq_self_eq_true, Bool.true_and, List.all_eq_true]
  intro x hx
  obtain ⟨n, v⟩ := x
  have hnd : (values.map (·.1)).Nodup := by rw [he]; exact foldIns_nodup _ [] (by simp)
  simp [assocGet_of_mem_nodup values n v hnd hx]

theorem valuesOkDL_append (ks : List Shape) (cs : List DT) (k : Shape) (c : DT)
    (h : valuesOkDL ks cs = true) (hk : valuesOkD k c = true) : valuesOkDL (ks ++ [k]) (cs ++ [c]) = true := by
  induction ks generalizing cs with
  | nil =>
    cases cs with
    | nil => exact (Bool.and_true _).trans hk
    | cons _ _ => cases h
  | cons x ks ih =>
    cases cs with
    | nil => cases h
    | cons y cs =>
      have h' : (valuesOkD x y && valuesOkDL ks cs) = true := h
      show (valuesOkD x y && valuesOkDL (ks ++ [k]) (cs ++ [c])) = true
      rw [Bool.and_eq_true] at h' ⊢
      exact ⟨h'.1, ih cs h'.2⟩

theorem valuesOkD_of_frame {t : DT} {fr : List (Name × Nat)} {k : List Shape} (h : FrameOk t [] fr k) :
    valuesOkD (.node (frameNames fr) k) t = true := by
  cases t with
  | node v d c =>
    show (tabOk _ v _ && valuesOkDL k c) = true
    rw [Bool.and_eq_true]
    exact ⟨tabOk_of_eq _ _ _ h.len h.tab, h.kids⟩

theorem framesOk_leave {t0 : DT} {v1 : List (Name × Value)} {d1 : List Value} {c1 : List DT} {ts : List DT}
    {fr0 fr1 : List (Name × Nat)} {frs : List (List (Name × Nat))} {k0 k1 : List Shape} {ks : List (List Shape)}
    (h : FramesOk (t0 :: .node v1 d1 c1 :: ts) [] (fr0 :: fr1 :: frs) (k0 :: k1 :: ks)) :
    FramesOk (.node v1 d1 (c1 ++ [t0]) :: ts) [] (fr1 :: frs) ((k1 ++ [.node (frameNames fr0) k0]) :: ks) := by
  cases h with
  | cons hf0 _ hrest =>
    cases hrest with
    | cons hf1 hin1 hrest' =>
      have hdd : (DT.node v1 d1 (c1 ++ [t0])).directDecls [] = (DT.node v1 d1 c1).directDecls t0.decls := by
        rw [dd_def, dd_def]
        apply List.filter_congr
        intro x _
        simp [DT.children, List.any_append]
      refine FramesOk.cons ⟨?_, ?_, ?_, ?_⟩ (by intro x hx; cases hx) hrest'
      · rw [hdd]; exact hf1.len
      · rw [hdd]; exact hf1.tab
      · exact valuesOkDL_append _ _ _ _ hf1.kids (valuesOkD_of_frame hf0)
      · intro c hc x hx
        simp only [DT.children, List.mem_append, List.mem_singleton] at hc
        rcases hc with hc | rfl
        · exact hf1.sub c hc x hx
        · exact hin1 x hx

end SemVerif
