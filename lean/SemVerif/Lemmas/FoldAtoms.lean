import SemVerif.Fold
/-! # Lemmas/FoldAtoms — the equations of `popWhile`; the precedence fold keeps the operands, in order -/
namespace SemVerif

variable {α : Type} (prio : Op → Nat)

theorem popWhile_cons (p : Nat) (r l : W α) (vs : List (W α)) (o : Op) (os : List Op) :
    popWhile prio p (r :: l :: vs) (o :: os) =
      if p ≤ prio o then popWhile prio p (W.pair l o r :: vs) os else (r :: l :: vs, o :: os) := rfl

/-- fewer than two values, or no operator: nothing is folded -/
theorem popWhile_stop (p : Nat) {vs : List (W α)} {os : List Op}
    (h : ∀ r l vs' o os', vs = r :: l :: vs' → os = o :: os' → False) : popWhile prio p vs os = (vs, os) := by
  cases vs with
  | nil => cases os <;> rfl
  | cons r t =>
    cases t with
    | nil => cases os <;> rfl
    | cons l t =>
      cases os with
      | nil => rfl
      | cons o os => exact (h r l t o os rfl rfl).elim

/-- operands held by a value stack (top first), bottom to top -/
def stackAtoms : List (W α) → List α
  | [] => []
  | v :: vs => stackAtoms vs ++ v.atoms

theorem stackAtoms_popWhile (p : Nat) (vs : List (W α)) (os : List Op) :
    stackAtoms (popWhile prio p vs os).1 = stackAtoms vs := by
  induction vs, os using popWhile.induct prio p with
  | case1 r l vs o os hp ih =>
    rw [popWhile_cons, if_pos hp, ih]
    show stackAtoms vs ++ (W.pair l o r).atoms = stackAtoms vs ++ l.atoms ++ r.atoms
    rw [W.atoms, List.append_assoc]
  | case2 r l vs o os hp => rw [popWhile_cons, if_neg hp]
  | case3 vs os h => rw [popWhile_stop prio p h]

theorem stackAtoms_foldStep (st : List (W α) × List Op) (x : Op × α) :
    stackAtoms (foldStep prio st x).1 = stackAtoms st.1 ++ [x.2] :=
  congrArg (· ++ [x.2]) (stackAtoms_popWhile prio (prio x.1) st.1 st.2)

theorem stackAtoms_foldl (rest : List (Op × α)) : ∀ (st : List (W α) × List Op),
    stackAtoms (rest.foldl (foldStep prio) st).1 = stackAtoms st.1 ++ rest.map (·.2) := by
  induction rest with
  | nil => intro st; exact (List.append_nil _).symm
  | cons x tl ih =>
    intro st
    rw [List.foldl_cons, ih, stackAtoms_foldStep, List.append_assoc]
    rfl

theorem foldChain_atoms_subset (v0 : α) (rest : List (Op × α)) :
    ∀ a ∈ (foldChain prio v0 rest).atoms, a = v0 ∨ a ∈ rest.map (·.2) := by
  intro a ha
  have hs := stackAtoms_popWhile prio 0 (rest.foldl (foldStep prio) ([W.atom v0], [])).1
    (rest.foldl (foldStep prio) ([W.atom v0], [])).2
  rw [stackAtoms_foldl] at hs
  unfold foldChain at ha
  dsimp only at ha
  generalize popWhile prio 0 (rest.foldl (foldStep prio) ([W.atom v0], [])).1
    (rest.foldl (foldStep prio) ([W.atom v0], [])).2 = r at ha hs
  obtain ⟨rv, ro⟩ := r
  cases rv with
  | nil => exact Or.inl (List.mem_singleton.mp ha)
  | cons w ws =>
    -- the result is the top of the value stack, whose operands are among those of the whole stack
    have : a ∈ stackAtoms (w :: ws) := List.mem_append_right _ ha
    rw [hs] at this
    exact List.mem_cons.mp this

end SemVerif
