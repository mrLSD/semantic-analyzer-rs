import SemVerif.Lemmas.SpecRef
import SemVerif.Spec.Traverse
import SemVerif.Lemmas.BodySpec
/-!
# Lemmas/ExtEvents — the extension-evaluation events of a denotation

* of a stack: exactly its `ExtendedExpression` instructions, in order (`evTags_abstractStack`);
* of a source function: exactly its extension leaves in evaluation order (`evTags_specStmts`),
  through the precedence fold (which keeps the operands of a chain in order).
-/
namespace SemVerif

def extEv : DStmt → Option Nat
  | .extS t => some t
  | _ => none

def evTags (l : List DStmt) : List Nat := l.filterMap extEv

theorem evTags_append (a b : List DStmt) : evTags (a ++ b) = evTags a ++ evTags b := by
  unfold evTags; rw [List.filterMap_append]

theorem evTags_snoc (o : List DStmt) {d : DStmt} (hd : extEv d = none) : evTags (o ++ [d]) = evTags o := by
  rw [evTags_append]
  simp only [evTags, List.filterMap_cons, hd, List.filterMap_nil, List.append_nil]

theorem evTags_emit (A : AbsSt) (d : DStmt) : evTags (A.emit d).out = evTags A.out ++ (extEv d).toList := by
  show evTags (A.out ++ [d]) = _
  rw [evTags_append]
  cases h : extEv d <;> simp only [evTags, List.filterMap_cons, List.filterMap_nil, h, Option.toList]

theorem evTags_step (A : AbsSt) (i : Instr) :
    evTags (abstractStep A i).out = evTags A.out ++ i.extTag.toList := by
  cases i
  case fnArg | call | ext | letBinding | binding | ifCondExpr | ifCondLogic | fnReturn | fnReturnWithLabel | jumpFnReturn =>
    exact evTags_emit _ _
  -- the other instructions leave the statement list alone
  all_goals exact (List.append_nil _).symm

theorem evTags_fold (stack : List Instr) : ∀ (A : AbsSt),
    evTags (stack.foldl abstractStep A).out = evTags A.out ++ stack.filterMap Instr.extTag := by
  induction stack with
  | nil => intro A; exact (List.append_nil _).symm
  | cons i rest ih =>
    intro A
    rw [List.foldl_cons, ih, evTags_step, List.append_assoc]
    cases h : i.extTag <;> simp only [List.filterMap_cons, h, Option.toList, List.nil_append, List.singleton_append]

theorem evTags_abstractStack (stack : List Instr) : evTags (abstractStack stack) = stack.filterMap Instr.extTag := by
  unfold abstractStack abstractFold
  rw [evTags_fold]
  rfl

def Tok.val? {α : Type} : Tok α → Option α
  | .val a => some a
  | .op _ => none

theorem atoms_of_flat {α : Type} : ∀ (t : W α), t.atoms = t.flat.filterMap Tok.val?
  | .atom a => rfl
  | .pair l o r => by
    show l.atoms ++ r.atoms = (l.flat ++ .op o :: r.flat).filterMap Tok.val?
    rw [List.filterMap_append, atoms_of_flat l, atoms_of_flat r]
    rfl

theorem foldChain_atoms {α : Type} (prio : Op → Nat) (v : α) (rest : List (Op × α)) :
    (foldChain prio v rest).atoms = v :: rest.map (·.2) := by
  rw [atoms_of_flat, (C07_fold_correct prio v rest).1]
  show v :: (rest.flatMap fun x => [Tok.op x.1, Tok.val x.2]).filterMap Tok.val? = _
  congr 1
  induction rest with
  | nil => rfl
  | cons x xs ih => rw [List.flatMap_cons, List.filterMap_append, ih]; rfl

theorem denTree_events : ∀ (t : W Den), (denTree t).1 = (t.atoms.map (·.1)).flatten
  | .atom d => (List.append_nil d.1).symm
  | .pair l o r => by
    show (denTree l).1 ++ (denTree r).1 = ((l.atoms ++ r.atoms).map (·.1)).flatten
    rw [List.map_append, List.flatten_append, denTree_events l, denTree_events r]

theorem specExpr_events (s : SpecSt) (v : ExprValue) (rest : Option (Op × Expr)) :
    (specExpr false s (.mk v rest)).1 = (specVal false s v).1 ++ ((specRest false s rest).map (·.2.1)).flatten := by
  show (denTree (foldChain Generated.prio (specVal false s v) (specRest false s rest))).1 = _
  rw [denTree_events, foldChain_atoms, List.map_cons, List.flatten_cons, List.map_map]
  rfl

theorem extLeavesL_eq : ∀ (es : List Expr), Expr.extLeavesL es = es.flatMap Expr.extLeaves
  | [] => rfl
  | e :: es => by
    show e.extLeaves ++ Expr.extLeavesL es = _
    rw [extLeavesL_eq es, List.flatMap_cons]

theorem extLeaves_more (v : ExprValue) (o : Op) (e : Expr) :
    (Expr.mk v (some (o, e))).extLeaves = v.extLeaves ++ e.extLeaves := rfl

theorem extLeaves_last (v : ExprValue) : (Expr.mk v none).extLeaves = v.extLeaves := rfl

theorem specRest_events (s : SpecSt) (o : Op) : ∀ e,
    ((specRest false s (some (o, e))).map (·.2.1)).flatten = (specExpr false s e).1
  | .mk v rest => by
    rw [specExpr_events, specRest_some, List.map_cons, List.flatten_cons]

mutual
theorem ev_specExpr (s : SpecSt) : ∀ e, evTags (specExpr false s e).1 = e.extLeaves.map (·.1)
  | .mk v none => by
    rw [specExpr_events, extLeaves_last]
    exact (congrArg evTags (List.append_nil _)).trans (ev_specVal s v)
  | .mk v (some (o, e)) => by
    rw [specExpr_events, specRest_events, evTags_append, ev_specVal s v, ev_specExpr s e, extLeaves_more, List.map_append]
theorem ev_specVal (s : SpecSt) : ∀ v, evTags (specVal false s v).1 = v.extLeaves.map (·.1)
  | .var x => rfl
  | .lit v => rfl
  | .call f args => by
    rw [specVal_call]
    exact (evTags_snoc _ rfl).trans (ev_specArgs s args)
  | .field x a => rfl
  | .sub e => ev_specExpr s e
  | .ext tag ty => rfl
theorem ev_specArgs (s : SpecSt) : ∀ as, evTags (specArgs false s as).1 = (Expr.extLeavesL as).map (·.1)
  | [] => rfl
  | e :: es => by
    show _ = (e.extLeaves ++ Expr.extLeavesL es).map (·.1)
    rw [specArgs_cons, evTags_append, ev_specExpr s e, ev_specArgs s es, List.map_append]
end

theorem ev_specRest (s : SpecSt) : ∀ o e, evTags ((specRest false s (some (o, e))).map (·.2.1)).flatten = e.extLeaves.map (·.1) := by
  intro o e
  rw [specRest_events]
  exact ev_specExpr s e

def leafTags (es : List Expr) : List Nat := (es.flatMap Expr.extLeaves).map (·.1)

theorem leafTags_append (a b : List Expr) : leafTags (a ++ b) = leafTags a ++ leafTags b := by
  unfold leafTags; rw [List.flatMap_append, List.map_append]

theorem leafTags_cons (e : Expr) (b : List Expr) : leafTags (e :: b) = e.extLeaves.map (·.1) ++ leafTags b := by
  unfold leafTags; rw [List.flatMap_cons, List.map_append]

theorem leafTags_nil : leafTags [] = [] := rfl

theorem leafTags_single (e : Expr) : leafTags [e] = e.extLeaves.map (·.1) := by
  rw [leafTags_cons, leafTags_nil, List.append_nil]

def Adds (F : SpecSt → SpecSt) (es : List Expr) : Prop :=
  ∀ s, evTags (F s).out = evTags s.out ++ leafTags es

theorem Adds.comp {F G : SpecSt → SpecSt} {a b : List Expr} (hF : Adds F a) (hG : Adds G b) :
    Adds (fun s => G (F s)) (a ++ b) := by
  intro s; rw [hG, hF, leafTags_append, List.append_assoc]

theorem Adds.id : Adds (fun s => s) [] := fun _ => (List.append_nil _).symm

theorem Adds.block {F : SpecSt → SpecSt} {a : List Expr} (hF : Adds F a) : Adds (fun s => (F s.push).pop) a :=
  fun s => hF s.push

theorem adds_emits_emit (ev : SpecSt → List DStmt) (d : SpecSt → DStmt) (es : List Expr)
    (hev : ∀ s, evTags (ev s) = leafTags es) (hd : ∀ s, extEv (d s) = none) :
    Adds (fun s => (s.emits (ev s)).emit (d s)) es := by
  intro s
  show evTags (s.out ++ ev s ++ [d s]) = _
  rw [evTags_snoc _ (hd s), evTags_append, hev]

theorem adds_expr {F : SpecSt → SpecSt} (e : Expr)
    (h : ∀ s, ∃ d, (F s).out = s.out ++ (specExpr false s e).1 ++ [d] ∧ extEv d = none) : Adds F [e] := by
  intro s
  obtain ⟨d, ho, hd⟩ := h s
  rw [ho, evTags_snoc _ hd, evTags_append, ev_specExpr, leafTags_single]

theorem adds_let (g : RGlobals) (b : LetB) : Adds (specLet false g b) [b.value] :=
  adds_expr b.value fun _ => ⟨_, rfl, rfl⟩

theorem adds_bind (b : Bind) : Adds (specBind false b) [b.value] :=
  adds_expr b.value fun _ => ⟨_, rfl, rfl⟩

theorem adds_jret (e : Expr) : Adds (specJret false rg e) [e] :=
  adds_expr e fun _ => ⟨_, rfl, rfl⟩

theorem adds_ret (e : Expr) : Adds (specRet false e) [e] :=
  adds_expr e fun _ => ⟨_, rfl, rfl⟩

theorem adds_callS (c : CallS) : Adds (specCallS false c) c.args := by
  intro s
  show evTags (s.out ++ (specVal false s (.call c.name c.args)).1) = _
  rw [evTags_append, ev_specVal]
  exact congrArg (fun l => evTags s.out ++ l.map (·.1)) (extLeavesL_eq c.args)

theorem ev_specLogic (s : SpecSt) : ∀ lc, evTags (specLogic false s lc).1 = leafTags lc.exprs
  | .mk c none => by
    show _ = leafTags [c.left, c.right]
    rw [specLogic_none, evTags_append, ev_specExpr, ev_specExpr, leafTags_cons, leafTags_single]
  | .mk c (some (lg, rc)) => by
    show _ = leafTags (c.left :: c.right :: rc.exprs)
    rw [specLogic_some, evTags_append, evTags_append, ev_specExpr, ev_specExpr, ev_specLogic s rc, leafTags_cons,
      leafTags_cons, List.append_assoc]

theorem adds_ifCond : ∀ (c : IfCond), Adds (specIfCond false c) c.exprs
  | .single e => adds_expr e fun _ => ⟨_, rfl, rfl⟩
  | .logic lc => adds_emits_emit _ _ _ (fun s => ev_specLogic s lc) fun _ => rfl

def NStmt.exprs : NStmt → List Expr
  | .letB b => [b.value]
  | .bind b => [b.value]
  | .call c => c.args
  | .ifS i => i.exprs
  | .loop l => LoopStmt.exprsL l
  | .ret e => [e]
  | .brk => []
  | .cont => []

theorem IfBodyStmt.exprsL_cons (st : IfBodyStmt) (tl : List IfBodyStmt) :
    IfBodyStmt.exprsL (st :: tl) = st.toN.exprs ++ IfBodyStmt.exprsL tl := by
  cases st <;> rfl

theorem IfLoopStmt.exprsL_cons (st : IfLoopStmt) (tl : List IfLoopStmt) :
    IfLoopStmt.exprsL (st :: tl) = st.toN.exprs ++ IfLoopStmt.exprsL tl := by
  cases st <;> rfl

theorem LoopStmt.exprsL_cons (st : LoopStmt) (tl : List LoopStmt) :
    LoopStmt.exprsL (st :: tl) = st.toN.exprs ++ LoopStmt.exprsL tl := by
  cases st <;> rfl

theorem BodyStmt.exprsL_cons (st : BodyStmt) (tl : List BodyStmt) :
    BodyStmt.exprsL (st :: tl) = st.split.elim NStmt.exprs (fun e => [e]) ++ BodyStmt.exprsL tl := by
  cases st <;> rfl

theorem adds_specN (g : RGlobals) (st : NStmt)
    (h : st.Sub (fun i => Adds (specIf false g i) i.exprs) (fun l => Adds (specLoopBody false g l) (LoopStmt.exprsL l))) :
    Adds (specN false g st) st.exprs := by
  cases st with
  | letB b => exact adds_let g b
  | bind b => exact adds_bind b
  | call c => exact adds_callS c
  | ifS i => exact h
  | loop l => exact Adds.block h
  | ret e => exact adds_jret e
  | brk => exact Adds.id
  | cont => exact Adds.id

theorem adds_ind (g : RGlobals) : BodyInd
    (fun i => Adds (specIf false g i) i.exprs)
    (fun b => Adds (specBodies false g b) b.exprs)
    (fun l => Adds (specIfBody false g l) (IfBodyStmt.exprsL l))
    (fun l => Adds (specIfLoopBody false g l) (IfLoopStmt.exprsL l))
    (fun l => Adds (specLoopBody false g l) (LoopStmt.exprsL l)) where
  ifS cond body els elif hbody hels helif := by
    have h1 : Adds (fun s => (specBodies false g body (specIfCond false cond s.push)).pop) (cond.exprs ++ IfBodies.exprs body) :=
      Adds.block (Adds.comp (adds_ifCond cond) hbody)
    cases els with
    | some eb => exact (Adds.comp h1 (Adds.block (hels eb rfl)) :)
    | none =>
      cases elif with
      | some ei => exact (Adds.comp h1 (helif ei rfl) :)
      | none => exact (Adds.comp h1 Adds.id :)
  ifb _ h := h
  loopb _ h := h
  ifNil := Adds.id
  ifCons st tl h ht s := by
    rw [specIfBody_cons, IfBodyStmt.exprsL_cons]
    exact Adds.comp (adds_specN g st.toN h) ht s
  ifLoopNil := Adds.id
  ifLoopCons st tl h ht s := by
    rw [specIfLoopBody_cons, IfLoopStmt.exprsL_cons]
    exact Adds.comp (adds_specN g st.toN h) ht s
  loopNil := Adds.id
  loopCons st tl h ht s := by
    rw [specLoopBody_cons, LoopStmt.exprsL_cons]
    exact Adds.comp (adds_specN g st.toN h) ht s

theorem adds_if (g : RGlobals) : ∀ i, Adds (specIf false g i) i.exprs :=
  (adds_ind g).ifStmt

theorem adds_bodies (g : RGlobals) : ∀ b, Adds (specBodies false g b) b.exprs :=
  (adds_ind g).bodies

theorem adds_ifBody (g : RGlobals) : ∀ l, Adds (specIfBody false g l) (IfBodyStmt.exprsL l) :=
  (adds_ind g).ifBody

theorem adds_ifLoopBody (g : RGlobals) : ∀ l, Adds (specIfLoopBody false g l) (IfLoopStmt.exprsL l) :=
  (adds_ind g).ifLoopBody

theorem adds_loopBody (g : RGlobals) : ∀ l, Adds (specLoopBody false g l) (LoopStmt.exprsL l) :=
  (adds_ind g).loopBody

theorem adds_body (g : RGlobals) : ∀ l, Adds (specBody false g l) (BodyStmt.exprsL l)
  | [] => Adds.id
  | st :: tl => fun s => by
    rw [specBody_cons, BodyStmt.exprsL_cons]
    cases st.split with
    | inl n => exact Adds.comp (adds_specN g n ((adds_ind g).sub n)) (adds_body g tl) s
    | inr e => exact Adds.comp (adds_ret e) (adds_body g tl) s

theorem ev_specParams : ∀ (ps : List (Name × ATy)) (s : SpecSt), evTags (specParams ps s).out = evTags s.out
  | [], _ => rfl
  | _ :: rest, s => (ev_specParams rest _).trans (evTags_snoc s.out rfl)

theorem evTags_specStmts (g : RGlobals) (f : FnDecl) : evTags (specStmts false g f) = f.extLeaves.map (·.1) := by
  unfold specStmts
  rw [adds_body g f.body, ev_specParams]
  rfl

end SemVerif
