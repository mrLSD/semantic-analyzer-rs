import SemVerif.Spec.Findings
import SemVerif.Lemmas.BodySpec
/-!
# Lemmas/FlowF2 — without the F2 pattern the F2 reading is the source semantics

`IfBodyStmt.f2L` & co. (Spec/Findings.lean) say that some if / else body contains an `if` that is
not its last statement.  When no body does, `lowerL true` (F2 built in) and `lowerL false` coincide.
-/
namespace SemVerif

/-- the flow of an `if` with `c` call events in its condition, then-part `fb` and else-part `fe` -/
def iteFlow (c : Nat) (fb fe : Nat → List Flow × Nat) (n : Nat) : List Flow × Nat :=
  (evs n c ++ [.ite (fb (n + c)).1 (fe (fb (n + c)).2).1], (fe (fb (n + c)).2).2)

theorem IfStmt.lower_mk (f2 : Bool) (cond : IfCond) (body : IfBodies) (els : Option IfBodies) (elif : Option IfStmt) (n : Nat) :
    IfStmt.lower f2 (.mk cond body els elif) n =
      iteFlow cond.calls (IfBodies.lower f2 body)
        (match els, elif with
          | some eb, _ => IfBodies.lower f2 eb
          | none, some ei => IfStmt.lower f2 ei
          | none, none => fun n => ([], n)) n := by
  cases els <;> cases elif <;> rfl

theorem IfStmt.f2_mk (cond : IfCond) (body : IfBodies) (els : Option IfBodies) (elif : Option IfStmt) :
    IfStmt.f2 (.mk cond body els elif) =
      (IfBodies.f2 body || (match els with | some eb => IfBodies.f2 eb | none => false) ||
        (match elif with | some ei => IfStmt.f2 ei | none => false)) := by
  cases els <;> cases elif <;> rfl

def f2N : NStmt → Bool
  | .ifS i => i.f2
  | .loop b => LoopStmt.f2L b
  | _ => false

theorem LoopStmt.f2L_cons (st : LoopStmt) (tl : List LoopStmt) :
    LoopStmt.f2L (st :: tl) = (f2N st.toN || LoopStmt.f2L tl) := by
  cases st <;> rfl

/-- in an if / else body an `if` that is not the last statement is the F2 pattern -/
theorem IfBodyStmt.f2L_cons (st : IfBodyStmt) (tl : List IfBodyStmt) :
    IfBodyStmt.f2L (st :: tl) = ((st.toN.isIf && !tl.isEmpty) || f2N st.toN || IfBodyStmt.f2L tl) := by
  cases st <;> cases tl <;> first | rfl | exact (Bool.or_false _).symm

theorem IfLoopStmt.f2L_cons (st : IfLoopStmt) (tl : List IfLoopStmt) :
    IfLoopStmt.f2L (st :: tl) = ((st.toN.isIf && !tl.isEmpty) || f2N st.toN || IfLoopStmt.f2L tl) := by
  cases st <;> cases tl <;> first | rfl | exact (Bool.or_false _).symm

theorem lowerF2_nStmt (st : NStmt) (n : Nat) (h : f2N st = false)
    (hsub : st.Sub (fun i => ∀ n, i.f2 = false → IfStmt.lower true i n = IfStmt.lower false i n)
      (fun l => ∀ n, LoopStmt.f2L l = false → LoopStmt.lowerL true l n = LoopStmt.lowerL false l n)) :
    lowerN true st n = lowerN false st n := by
  cases st with
  | ifS i => exact hsub n h
  | loop l => exact congrArg (fun p => ([Flow.loop p.1], p.2)) (hsub n h)
  | _ => rfl

/-- in an if / else body whose nested `if`s are last the F2 clause of the lowering never applies -/
theorem f2_clause {α : Type} {isIf nil : Bool} (h : (isIf && !nil) = false) (a b : α) :
    (if isIf && true && !nil then a else b) = (if isIf && false && !nil then a else b) := by
  rw [Bool.and_true, h, Bool.and_false, Bool.false_and]

theorem lowerF2_ind : BodyInd
    (fun i => ∀ n, i.f2 = false → IfStmt.lower true i n = IfStmt.lower false i n)
    (fun b => ∀ n, b.f2 = false → IfBodies.lower true b n = IfBodies.lower false b n)
    (fun l => ∀ n, IfBodyStmt.f2L l = false → IfBodyStmt.lowerL true l n = IfBodyStmt.lowerL false l n)
    (fun l => ∀ n, IfLoopStmt.f2L l = false → IfLoopStmt.lowerL true l n = IfLoopStmt.lowerL false l n)
    (fun l => ∀ n, LoopStmt.f2L l = false → LoopStmt.lowerL true l n = LoopStmt.lowerL false l n) where
  ifS cond body els elif hbody hels helif n h := by
    rw [IfStmt.f2_mk, Bool.or_eq_false_iff, Bool.or_eq_false_iff] at h
    rw [IfStmt.lower_mk, IfStmt.lower_mk, funext fun n => hbody n h.1.1]
    cases els with
    | some eb => dsimp only; rw [funext fun n => hels eb rfl n h.1.2]
    | none =>
      cases elif with
      | some ei => dsimp only; rw [funext fun n => helif ei rfl n h.2]
      | none => rfl
  ifb _ h := h
  loopb _ h := h
  ifNil _ _ := rfl
  ifCons st tl hs ht n h := by
    rw [IfBodyStmt.f2L_cons, Bool.or_eq_false_iff, Bool.or_eq_false_iff] at h
    rw [IfBodyStmt.lowerL_cons, IfBodyStmt.lowerL_cons, f2_clause h.1.1, lowerF2_nStmt st.toN n h.1.2 hs, ht _ h.2]
  ifLoopNil _ _ := rfl
  ifLoopCons st tl hs ht n h := by
    rw [IfLoopStmt.f2L_cons, Bool.or_eq_false_iff, Bool.or_eq_false_iff] at h
    rw [IfLoopStmt.lowerL_cons, IfLoopStmt.lowerL_cons, f2_clause h.1.1, lowerF2_nStmt st.toN n h.1.2 hs, ht _ h.2]
  loopNil _ _ := rfl
  loopCons st tl hs ht n h := by
    rw [LoopStmt.f2L_cons, Bool.or_eq_false_iff] at h
    rw [LoopStmt.lowerL_cons, LoopStmt.lowerL_cons, lowerF2_nStmt st.toN n h.1 hs, ht _ h.2]

theorem lowerF2_if : ∀ (i : IfStmt) (n : Nat), i.f2 = false → IfStmt.lower true i n = IfStmt.lower false i n :=
  lowerF2_ind.ifStmt

theorem lowerF2_bodies : ∀ (b : IfBodies) (n : Nat), b.f2 = false → IfBodies.lower true b n = IfBodies.lower false b n :=
  lowerF2_ind.bodies

theorem lowerF2_ifBody : ∀ (l : List IfBodyStmt) (n : Nat), IfBodyStmt.f2L l = false →
    IfBodyStmt.lowerL true l n = IfBodyStmt.lowerL false l n :=
  lowerF2_ind.ifBody

theorem lowerF2_ifLoopBody : ∀ (l : List IfLoopStmt) (n : Nat), IfLoopStmt.f2L l = false →
    IfLoopStmt.lowerL true l n = IfLoopStmt.lowerL false l n :=
  lowerF2_ind.ifLoopBody

theorem lowerF2_loopBody : ∀ (l : List LoopStmt) (n : Nat), LoopStmt.f2L l = false →
    LoopStmt.lowerL true l n = LoopStmt.lowerL false l n :=
  lowerF2_ind.loopBody

theorem BodyStmt.lowerL_cons (f2 : Bool) (st : BodyStmt) (tl : List BodyStmt) (n : Nat) :
    BodyStmt.lowerL f2 (st :: tl) n =
      ((st.split.elim (lowerN f2) lowerRet n).1 ++ (BodyStmt.lowerL f2 tl (st.split.elim (lowerN f2) lowerRet n).2).1,
       (BodyStmt.lowerL f2 tl (st.split.elim (lowerN f2) lowerRet n).2).2) := by
  cases st <;> rfl

theorem BodyStmt.f2L_cons (st : BodyStmt) (tl : List BodyStmt) :
    BodyStmt.f2L (st :: tl) = (st.split.elim f2N (fun _ => false) || BodyStmt.f2L tl) := by
  cases st <;> rfl

theorem lowerF2_body : ∀ (l : List BodyStmt) (n : Nat), BodyStmt.f2L l = false →
    BodyStmt.lowerL true l n = BodyStmt.lowerL false l n
  | [], _, _ => rfl
  | st :: tl, n, h => by
    rw [BodyStmt.f2L_cons, Bool.or_eq_false_iff] at h
    have h1 : st.split.elim (lowerN true) lowerRet n = st.split.elim (lowerN false) lowerRet n := by
      cases hq : st.split with
      | inr e => rfl
      | inl m =>
        rw [hq] at h
        refine lowerF2_nStmt m n h.1 ?_
        cases m with
        | ifS i => exact lowerF2_if i
        | loop l => exact lowerF2_loopBody l
        | _ => trivial
    rw [BodyStmt.lowerL_cons, BodyStmt.lowerL_cons, h1, lowerF2_body tl _ h.2]

theorem flowF2_eq (f : FnDecl) (h : f.hasF2 = false) : f.flowF2 = f.flow := by
  unfold FnDecl.flowF2 FnDecl.flow
  unfold FnDecl.hasF2 at h
  rw [lowerF2_body f.body 0 h]

end SemVerif
