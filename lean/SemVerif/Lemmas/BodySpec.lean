import SemVerif.Lemmas.Body
import SemVerif.Spec.ExtVisit
import SemVerif.Spec.Flow
import SemVerif.Spec.Denote
/-!
# Lemmas/BodySpec — one statement of a nested body, in the specifications

The rule checker, the source denotation, the visit specification and the lowering to structured flows
walk the three nested statement loops exactly as the analyzer does (`Lemmas/Body`).  For each of them:
what it does for one `NStmt`, and the equation that each of its three loops does that on its head
(`checkN`, `specN`, `visN`, `lowerN`); likewise the syntactic predicates and shapes (`loopOKN`, `NStmt.lets`,
`NStmt.shapes`) and the function-level loops (`checkBody_cons`, `specBody_cons`, `visBody_cons`).
-/
namespace SemVerif

def checkN (g : RGlobals) (resTy : Ty) (st : NStmt) (f : Flags) (s : RS) : RS × Flags :=
  let s := codeAfter f.rc f.bc f.cc s
  match st with
  | .letB b => (checkLet g b s, f)
  | .bind b => (checkBind g b s, f)
  | .call c => (checkCallS g c s, f)
  | .ifS i => (checkIf g resTy i s, f)
  | .loop l => ((checkLoopBody g resTy l false false false s.push).pop, f)
  | .ret e => ((checkNestedRet g resTy e s).1, { f with rc := f.rc || (checkNestedRet g resTy e s).2 })
  | .brk => (s, { f with bc := true })
  | .cont => (s, { f with cc := true })

theorem checkIfBody_cons (g : RGlobals) (resTy : Ty) (st : IfBodyStmt) (tl : List IfBodyStmt) (rc : Bool) (s : RS) :
    checkIfBody g resTy (st :: tl) rc s =
      checkIfBody g resTy tl (checkN g resTy st.toN ⟨rc, false, false⟩ s).2.rc
        (checkN g resTy st.toN ⟨rc, false, false⟩ s).1 := by
  cases st <;> rfl

theorem checkIfLoopBody_cons (g : RGlobals) (resTy : Ty) (st : IfLoopStmt) (tl : List IfLoopStmt)
    (rc bc cc : Bool) (s : RS) :
    checkIfLoopBody g resTy (st :: tl) rc bc cc s =
      checkIfLoopBody g resTy tl (checkN g resTy st.toN ⟨rc, bc, cc⟩ s).2.rc
        (checkN g resTy st.toN ⟨rc, bc, cc⟩ s).2.bc (checkN g resTy st.toN ⟨rc, bc, cc⟩ s).2.cc
        (checkN g resTy st.toN ⟨rc, bc, cc⟩ s).1 := by
  cases st <;> rfl

theorem checkLoopBody_cons (g : RGlobals) (resTy : Ty) (st : LoopStmt) (tl : List LoopStmt)
    (rc bc cc : Bool) (s : RS) :
    checkLoopBody g resTy (st :: tl) rc bc cc s =
      checkLoopBody g resTy tl (checkN g resTy st.toN ⟨rc, bc, cc⟩ s).2.rc
        (checkN g resTy st.toN ⟨rc, bc, cc⟩ s).2.bc (checkN g resTy st.toN ⟨rc, bc, cc⟩ s).2.cc
        (checkN g resTy st.toN ⟨rc, bc, cc⟩ s).1 := by
  cases st <;> rfl

/-- the state in which `checkBody` checks a statement: B12 is reported once a return has been seen -/
def afterRet (rc : Bool) (rs : RS) : RS :=
  if rc then rs.viol "B12-after" .forbiddenCodeAfterReturnDeprecated wildcard else rs

/-- the function-level loop reports code after a return under a rule of its own, then checks the statement -/
theorem checkBody_cons (g : RGlobals) (resTy : Ty) (st : BodyStmt) (tl : List BodyStmt) (rc : Bool) (s : RS) :
    checkBody g resTy (st :: tl) rc s =
      match st.split with
      | .inl n => checkBody g resTy tl rc (checkN g resTy n ⟨false, false, false⟩ (afterRet rc s)).1
      | .inr e => checkBody g resTy tl (checkFnRet g resTy e rc (afterRet rc s)).2 (checkFnRet g resTy e rc (afterRet rc s)).1 := by
  cases st <;> rfl

def loopOKN (inLoop : Bool) : NStmt → Bool
  | .ifS i => IfStmt.loopOK inLoop i
  | .loop l => LoopStmt.loopOKL l
  | _ => true

theorem IfStmt.loopOK_mk (inLoop : Bool) (cond : IfCond) (body : IfBodies) (els : Option IfBodies) (elif : Option IfStmt) :
    IfStmt.loopOK inLoop (.mk cond body els elif) =
      (IfBodies.loopOK inLoop body && (match els with | some eb => IfBodies.loopOK inLoop eb | none => true) &&
        (match elif with | some ei => IfStmt.loopOK inLoop ei | none => true)) := by
  cases els <;> cases elif <;> rfl

theorem IfBodyStmt.loopOKL_cons (inLoop : Bool) (st : IfBodyStmt) (tl : List IfBodyStmt) :
    IfBodyStmt.loopOKL inLoop (st :: tl) = (loopOKN inLoop st.toN && IfBodyStmt.loopOKL inLoop tl) := by
  cases st <;> rfl

theorem IfLoopStmt.loopOKL_cons (st : IfLoopStmt) (tl : List IfLoopStmt) :
    IfLoopStmt.loopOKL (st :: tl) = (loopOKN true st.toN && IfLoopStmt.loopOKL tl) := by
  cases st <;> rfl

theorem LoopStmt.loopOKL_cons (st : LoopStmt) (tl : List LoopStmt) :
    LoopStmt.loopOKL (st :: tl) = (loopOKN true st.toN && LoopStmt.loopOKL tl) := by
  cases st <;> rfl

theorem BodyStmt.loopOKL_cons (st : BodyStmt) (tl : List BodyStmt) :
    BodyStmt.loopOKL (st :: tl) = (st.split.elim (loopOKN false) (fun _ => true) && BodyStmt.loopOKL tl) := by
  cases st <;> rfl

def specN (ref : Bool) (g : RGlobals) (st : NStmt) (s : SpecSt) : SpecSt :=
  match st with
  | .letB b => specLet ref g b s
  | .bind b => specBind ref b s
  | .call c => specCallS ref c s
  | .ifS i => specIf ref g i s
  | .loop l => (specLoopBody ref g l s.push).pop
  | .ret e => specJret ref g e s
  | .brk => s
  | .cont => s

theorem specIfBody_cons (ref : Bool) (g : RGlobals) (st : IfBodyStmt) (tl : List IfBodyStmt) (s : SpecSt) :
    specIfBody ref g (st :: tl) s = specIfBody ref g tl (specN ref g st.toN s) := by
  cases st <;> rfl

theorem specIfLoopBody_cons (ref : Bool) (g : RGlobals) (st : IfLoopStmt) (tl : List IfLoopStmt) (s : SpecSt) :
    specIfLoopBody ref g (st :: tl) s = specIfLoopBody ref g tl (specN ref g st.toN s) := by
  cases st <;> rfl

theorem specLoopBody_cons (ref : Bool) (g : RGlobals) (st : LoopStmt) (tl : List LoopStmt) (s : SpecSt) :
    specLoopBody ref g (st :: tl) s = specLoopBody ref g tl (specN ref g st.toN s) := by
  cases st <;> rfl

theorem specBody_cons (ref : Bool) (g : RGlobals) (st : BodyStmt) (tl : List BodyStmt) (s : SpecSt) :
    specBody ref g (st :: tl) s = specBody ref g tl (st.split.elim (specN ref g) (specRet ref) s) := by
  cases st <;> rfl

def visN (g : RGlobals) (st : NStmt) (sc : Scope) : List Nat × Scope :=
  match st with
  | .letB b => ((visE g sc b.value).1, visLetSc g sc b)
  | .bind b => ((visE g sc b.value).1, sc)
  | .call c => (visCallS g sc c, sc)
  | .ifS i => (visIf g i sc, sc)
  | .loop l => (visLoopBody g l ([] :: sc), sc)
  | .ret e => ((visE g sc e).1, sc)
  | .brk => ([], sc)
  | .cont => ([], sc)

theorem visIfBody_cons (g : RGlobals) (st : IfBodyStmt) (tl : List IfBodyStmt) (sc : Scope) :
    visIfBody g (st :: tl) sc = (visN g st.toN sc).1 ++ visIfBody g tl (visN g st.toN sc).2 := by
  cases st <;> rfl

theorem visIfLoopBody_cons (g : RGlobals) (st : IfLoopStmt) (tl : List IfLoopStmt) (sc : Scope) :
    visIfLoopBody g (st :: tl) sc = (visN g st.toN sc).1 ++ visIfLoopBody g tl (visN g st.toN sc).2 := by
  cases st <;> rfl

theorem visLoopBody_cons (g : RGlobals) (st : LoopStmt) (tl : List LoopStmt) (sc : Scope) :
    visLoopBody g (st :: tl) sc = (visN g st.toN sc).1 ++ visLoopBody g tl (visN g st.toN sc).2 := by
  cases st <;> rfl

theorem visBody_cons (g : RGlobals) (st : BodyStmt) (tl : List BodyStmt) (sc : Scope) :
    visBody g (st :: tl) sc = (st.split.elim (visN g) (fun e sc => ((visE g sc e).1, sc)) sc).1 ++
      visBody g tl (st.split.elim (visN g) (fun e sc => ((visE g sc e).1, sc)) sc).2 := by
  cases st <;> rfl

def NStmt.lets : NStmt → List Name
  | .letB b => [b.name]
  | _ => []

def NStmt.shapes : NStmt → List Shape
  | .ifS i => IfStmt.shapes i
  | .loop b => [.node (LoopStmt.letsL b) (LoopStmt.shapesL b)]
  | _ => []

theorem IfBodyStmt.letsL_cons (st : IfBodyStmt) (tl : List IfBodyStmt) :
    IfBodyStmt.letsL (st :: tl) = st.toN.lets ++ IfBodyStmt.letsL tl := by
  cases st <;> rfl
theorem IfLoopStmt.letsL_cons (st : IfLoopStmt) (tl : List IfLoopStmt) :
    IfLoopStmt.letsL (st :: tl) = st.toN.lets ++ IfLoopStmt.letsL tl := by
  cases st <;> rfl
theorem LoopStmt.letsL_cons (st : LoopStmt) (tl : List LoopStmt) :
    LoopStmt.letsL (st :: tl) = st.toN.lets ++ LoopStmt.letsL tl := by
  cases st <;> rfl

theorem BodyStmt.letsL_cons (st : BodyStmt) (tl : List BodyStmt) :
    BodyStmt.letsL (st :: tl) = st.split.elim NStmt.lets (fun _ => []) ++ BodyStmt.letsL tl := by
  cases st <;> rfl

theorem IfBodyStmt.shapesL_cons (st : IfBodyStmt) (tl : List IfBodyStmt) :
    IfBodyStmt.shapesL (st :: tl) = st.toN.shapes ++ IfBodyStmt.shapesL tl := by
  cases st <;> rfl
theorem IfLoopStmt.shapesL_cons (st : IfLoopStmt) (tl : List IfLoopStmt) :
    IfLoopStmt.shapesL (st :: tl) = st.toN.shapes ++ IfLoopStmt.shapesL tl := by
  cases st <;> rfl
theorem LoopStmt.shapesL_cons (st : LoopStmt) (tl : List LoopStmt) :
    LoopStmt.shapesL (st :: tl) = st.toN.shapes ++ LoopStmt.shapesL tl := by
  cases st <;> rfl

theorem BodyStmt.shapesL_cons (st : BodyStmt) (tl : List BodyStmt) :
    BodyStmt.shapesL (st :: tl) = st.split.elim NStmt.shapes (fun _ => []) ++ BodyStmt.shapesL tl := by
  cases st <;> rfl

def lowerN (f2 : Bool) (st : NStmt) (n : Nat) : List Flow × Nat :=
  match st with
  | .letB b => lowerLet b n
  | .bind b => lowerBind b n
  | .call c => lowerCallS c n
  | .ifS i => IfStmt.lower f2 i n
  | .loop l => ([Flow.loop (LoopStmt.lowerL f2 l n).1], (LoopStmt.lowerL f2 l n).2)
  | .ret e => lowerRet e n
  | .brk => ([Flow.brk], n)
  | .cont => ([Flow.cont], n)

def NStmt.isIf : NStmt → Bool
  | .ifS _ => true
  | _ => false

/-- in an if / else body, under the F2 reading, what follows a nested `if` is dropped -/
theorem IfBodyStmt.lowerL_cons (f2 : Bool) (st : IfBodyStmt) (tl : List IfBodyStmt) (n : Nat) :
    IfBodyStmt.lowerL f2 (st :: tl) n =
      (if st.toN.isIf && f2 && !tl.isEmpty then (lowerN f2 st.toN n).1
       else (lowerN f2 st.toN n).1 ++ (IfBodyStmt.lowerL f2 tl (lowerN f2 st.toN n).2).1,
       (IfBodyStmt.lowerL f2 tl (lowerN f2 st.toN n).2).2) := by
  cases st <;> rfl

theorem IfLoopStmt.lowerL_cons (f2 : Bool) (st : IfLoopStmt) (tl : List IfLoopStmt) (n : Nat) :
    IfLoopStmt.lowerL f2 (st :: tl) n =
      (if st.toN.isIf && f2 && !tl.isEmpty then (lowerN f2 st.toN n).1
       else (lowerN f2 st.toN n).1 ++ (IfLoopStmt.lowerL f2 tl (lowerN f2 st.toN n).2).1,
       (IfLoopStmt.lowerL f2 tl (lowerN f2 st.toN n).2).2) := by
  cases st <;> rfl

theorem LoopStmt.lowerL_cons (f2 : Bool) (st : LoopStmt) (tl : List LoopStmt) (n : Nat) :
    LoopStmt.lowerL f2 (st :: tl) n =
      ((lowerN f2 st.toN n).1 ++ (LoopStmt.lowerL f2 tl (lowerN f2 st.toN n).2).1,
       (LoopStmt.lowerL f2 tl (lowerN f2 st.toN n).2).2) := by
  cases st <;> rfl

end SemVerif
