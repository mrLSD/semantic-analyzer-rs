import SemVerif.Analyzer
import SemVerif.Spec.Stack
/-!
# Lemmas/Steps — every run of the analyzer is a sequence of primitive steps

`EStep` are the primitive state changes made below statement level (expressions, let, assignment,
call): bump the counter, push an instruction that sets no label, report an error, declare a value.
`Step` adds what the control constructs do: enter / leave a block, register a label, push a label or jump
(also through a suspended block), push a return, raise the return flag, set the panic field.  `Lemmas/ExprSteps` (`em_exprM` …) and
`Lemmas/StmtSteps` (`steps_ind : BodyInd …`, `steps_bodyStmts`, `steps_functionBody`) show that the
whole analysis of a function body is a `Steps` chain; the every-program invariants (C09, C12, C18
subsequence) then only have to look at single steps.  `FStep` / `Around` cut the chain of a control
construct at its `enter` / `leave`, for invariants about nesting, returns and the panic field (C11, C13, C18).
-/
namespace SemVerif

def Instr.plain (i : Instr) : Prop := i.setsLabel = none

inductive EStep : St → St → Prop
  | incReg (s : St) : EStep s s.incReg
  | emit (s : St) (i : Instr) (hw : i.writes = none) (hd : i.declares = none) (hl : i.setsLabel = none)
      (hu : ∀ v, i.usesValue = some v → ∃ n, s.lookupValue n = some v) (hr : i.isRet = false)
      (ht : i.targets = []) : EStep s (s.push i)
  | incEmit (s : St) (i : Instr) (hw : i.writes = some s.incReg.curReg) (hd : i.declares = none)
      (hl : i.setsLabel = none) (hu : ∀ v, i.usesValue = some v → ∃ n, s.lookupValue n = some v)
      (ht : i.targets = []) : EStep s (s.incReg.push i)
  | addErr (s : St) (k : ErrKind) (v : Name) (l o : Nat) : EStep s (s.addErr k v l o)
  | declare (s : St) (n : Name) (v : Value) (i : Instr) (hi : i.declares = some v) (hw : i.writes = none)
      (hl : i.setsLabel = none) (hu : i.usesValue = none) (hfresh : s.innerUsed v.innerName = false)
      (ht : i.targets = []) : EStep s (((s.insertValue n v).registerInner v.innerName).push i)

inductive Step : St → St → Prop
  | e {s s' : St} (h : EStep s s') : Step s s'
  | enter (s : St) : Step s s.enter
  | leave (s : St) : Step s s.leave.2
  | regLabel (s : St) (l : Name) (h : s.labelUsed l = false) :
      Step s (s.mapFrames fun b => { b with labels := setInsert l b.labels })
  /-- label / jump instruction pushed through the current block -/
  | ctl (s : St) (i : Instr) (hw : i.writes = none) (hd : i.declares = none) (hu : i.usesValue = none)
      (hr : i.isRet = false) : Step s (s.push i)
  /-- a function-return or jump-to-return instruction (`function_body` Return/Expression arms, nested returns) -/
  | emitRet (s : St) (i : Instr) (hi : i.isRet = true) (hw : i.writes = none) (hd : i.declares = none)
      (hl : i.setsLabel = none) (hu : i.usesValue = none) : Step s (s.push i)
  /-- label / jump instruction pushed through the suspended if-block -/
  | ctlVia (s : St) (k : Nat) (i : Instr) (hw : i.writes = none) (hd : i.declares = none) (hu : i.usesValue = none)
      (hr : i.isRet = false) : Step s (s.pushVia k i)
  | setReturn (s : St) : Step s s.setReturn
  /-- the documented `expect` on the loop labels -/
  | setPanic (s : St) (site : Nat) : Step s (s.setPanic site)

inductive ESteps : St → St → Prop
  | refl (s : St) : ESteps s s
  | tail {a b c : St} : ESteps a b → EStep b c → ESteps a c

inductive Steps : St → St → Prop
  | refl (s : St) : Steps s s
  | tail {a b c : St} : Steps a b → Step b c → Steps a c

theorem isRet_of_writes {i : Instr} {r : Nat} (h : i.writes = some r) : i.isRet = false := by
  cases i <;> first | rfl | cases h

theorem isRet_of_declares {i : Instr} {v : Value} (h : i.declares = some v) : i.isRet = false := by
  cases i <;> first | rfl | cases h

theorem ESteps.trans {a b c : St} (h1 : ESteps a b) (h2 : ESteps b c) : ESteps a c := by
  induction h2 with
  | refl => exact h1
  | tail _ st ih => exact ESteps.tail ih st

theorem Steps.trans {a b c : St} (h1 : Steps a b) (h2 : Steps b c) : Steps a c := by
  induction h2 with
  | refl => exact h1
  | tail _ st ih => exact Steps.tail ih st

theorem ESteps.toSteps {a b : St} (h : ESteps a b) : Steps a b := by
  induction h with
  | refl => exact Steps.refl _
  | tail _ st ih => exact Steps.tail ih (Step.e st)

theorem ESteps.single {a b : St} (h : EStep a b) : ESteps a b := ESteps.tail (ESteps.refl _) h
theorem Steps.single {a b : St} (h : Step a b) : Steps a b := Steps.tail (Steps.refl _) h

theorem EStep.panic_eq {s s' : St} (h : EStep s s') : s'.panic = s.panic := by
  cases h <;> first | rfl | (unfold St.push St.registerInner St.mapFrames St.insertValue St.mapCur; cases s.inner <;> rfl)

theorem ESteps.panic_eq {s s' : St} (h : ESteps s s') : s'.panic = s.panic := by
  induction h with
  | refl => rfl
  | tail _ st ih => rw [st.panic_eq, ih]

/-- an expression-level step chain followed by at most one conditional-branch instruction
(`if_condition_calculation`: the only place below the control constructs that names labels) -/
def BSteps (s s' : St) : Prop :=
  ∃ s1, ESteps s s1 ∧ (s' = s1 ∨ ∃ i : Instr, s' = s1.push i ∧ i.writes = none ∧ i.declares = none ∧
    i.setsLabel = none ∧ i.usesValue = none ∧ i.isRet = false)

theorem BSteps.toSteps {a b : St} (h : BSteps a b) : Steps a b := by
  obtain ⟨s1, h1, rfl | ⟨i, rfl, hw, hd, _, hu, hr⟩⟩ := h
  · exact h1.toSteps
  · exact h1.toSteps.tail (Step.ctl _ _ hw hd hu hr)

theorem BSteps.panic_eq {s s' : St} (h : BSteps s s') : s'.panic = s.panic := by
  obtain ⟨s1, h1, rfl | ⟨i, rfl, _⟩⟩ := h
  · exact h1.panic_eq
  · rw [← h1.panic_eq]; rfl

def EM {α : Type} (m : St → α × St) : Prop := ∀ s, ESteps s (m s).2

/-- what a control construct does between opening and closing its block, returns apart: expression-level
steps, registering a label, label / jump pushes.  These change neither the nesting nor the returns, so
an invariant about either has to look at `enter`, `leave` and the return pushes only. -/
inductive FStep : St → St → Prop
  | e {s s' : St} (h : EStep s s') : FStep s s'
  | regLabel (s : St) (l : Name) (h : s.labelUsed l = false) :
      FStep s (s.mapFrames fun b => { b with labels := setInsert l b.labels })
  | ctl (s : St) (i : Instr) (hw : i.writes = none) (hd : i.declares = none) (hu : i.usesValue = none)
      (hr : i.isRet = false) : FStep s (s.push i)
  | ctlVia (s : St) (k : Nat) (i : Instr) (hw : i.writes = none) (hd : i.declares = none) (hu : i.usesValue = none)
      (hr : i.isRet = false) : FStep s (s.pushVia k i)

inductive FSteps : St → St → Prop
  | refl (s : St) : FSteps s s
  | tail {a b c : St} : FSteps a b → FStep b c → FSteps a c

theorem FSteps.trans {a b c : St} (h1 : FSteps a b) (h2 : FSteps b c) : FSteps a c := by
  induction h2 with
  | refl => exact h1
  | tail _ st ih => exact FSteps.tail ih st

theorem FStep.toStep {a b : St} (h : FStep a b) : Step a b := by
  cases h with
  | e h => exact Step.e h
  | regLabel l h => exact Step.regLabel _ l h
  | ctl i hw hd hu hr => exact Step.ctl _ i hw hd hu hr
  | ctlVia k i hw hd hu hr => exact Step.ctlVia _ k i hw hd hu hr

theorem FSteps.toSteps {a b : St} (h : FSteps a b) : Steps a b := by
  induction h with
  | refl => exact Steps.refl _
  | tail _ st ih => exact Steps.tail ih st.toStep

theorem ESteps.toFSteps {a b : St} (h : ESteps a b) : FSteps a b := by
  induction h with
  | refl => exact FSteps.refl _
  | tail _ st ih => exact FSteps.tail ih (FStep.e st)

theorem BSteps.toFSteps {a b : St} (h : BSteps a b) : FSteps a b := by
  obtain ⟨s1, h1, rfl | ⟨i, rfl, hw, hd, _, hu, hr⟩⟩ := h
  · exact h1.toFSteps
  · exact h1.toFSteps.tail (FStep.ctl _ _ hw hd hu hr)

theorem panic_pushVia (k : Nat) (i : Instr) (s : St) : (s.pushVia k i).panic = s.panic := by
  unfold St.pushVia St.mapCur
  cases s.inner <;> rfl

theorem FStep.panic_eq {s s' : St} (h : FStep s s') : s'.panic = s.panic := by
  cases h with
  | e h => exact h.panic_eq
  | regLabel => rfl
  | ctl => rfl
  | ctlVia k i => exact panic_pushVia k i s

theorem FSteps.panic_eq {s s' : St} (h : FSteps s s') : s'.panic = s.panic := by
  induction h with
  | refl => rfl
  | tail _ st ih => rw [st.panic_eq, ih]

/-- `s3` comes from `s` by opening a block, running `s1 ⟶ s2` inside it and closing it again, with flat
steps in between: the shape of an if-body, an else-body and a loop -/
def Around (s s1 s2 s3 : St) : Prop :=
  ∃ s0 s2', FSteps s s0 ∧ FSteps s0.enter s1 ∧ FSteps s2 s2' ∧ FSteps s2'.leave.2 s3

theorem Around.steps {s s1 s2 s3 : St} (h : Around s s1 s2 s3) (hb : Steps s1 s2) : Steps s s3 := by
  obtain ⟨s0, s2', h0, h1, h2, h3⟩ := h
  have hin := (h0.toSteps.tail (Step.enter _)).trans h1.toSteps
  have hout := (h2.toSteps.tail (Step.leave _)).trans h3.toSteps
  exact (hin.trans hb).trans hout

end SemVerif
