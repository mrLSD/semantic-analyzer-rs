import SemVerif.Lemmas.Steps
/-!
# Lemmas/Frames — how the primitive operations act on the list of live blocks

What `mapFrames`, `mapCur`, `enter`, `leave` do to `St.frames` and to a projection of it; membership in
association lists and registries; then what every step does to the error list (it only grows) and what
the expression-level steps do to the nesting depth (nothing).
-/
namespace SemVerif

theorem mem_frames {s : St} {b : Block} : b ∈ s.frames ↔ b ∈ s.inner ∨ b = s.root := by
  simp [St.frames]

theorem frames_mapFrames (f : Block → Block) (s : St) : (s.mapFrames f).frames = s.frames.map f := by
  simp [St.mapFrames, St.frames]

theorem root_mapFrames (f : Block → Block) (s : St) : (s.mapFrames f).root = f s.root := rfl
theorem inner_mapFrames (f : Block → Block) (s : St) : (s.mapFrames f).inner = s.inner.map f := rfl

theorem frames_mapCur (f : Block → Block) (s : St) :
    (s.mapCur f).frames = match s.frames with
      | [] => []
      | b :: rest => f b :: rest := by
  unfold St.mapCur St.frames
  cases s.inner <;> simp

theorem frames_cur (s : St) : s.frames = s.cur :: s.frames.tail := by
  unfold St.cur St.frames
  cases s.inner <;> rfl

theorem frames_mapCur_cur (f : Block → Block) (s : St) : (s.mapCur f).frames = f s.cur :: s.frames.tail := by
  unfold St.mapCur St.cur St.frames
  cases s.inner <;> rfl

theorem frames_ne_nil (s : St) : s.frames ≠ [] := by simp [St.frames]

theorem cur_eq_head (s : St) : s.frames.head? = some s.cur := by
  unfold St.cur St.frames
  cases s.inner <;> simp

theorem cur_mem_frames (s : St) : s.cur ∈ s.frames := by
  unfold St.cur St.frames
  cases s.inner <;> simp

/-! An invariant of the analysis looks at the live blocks through some projection `P` (their stacks, their
counters, …).  Whatever maps live blocks by a function that `P` does not see leaves `s.frames.map P`
alone, and with it the invariant: this is all that has to be said about `mapFrames f`, `mapCur f`,
`addErr`, `setPanic` for such `f`. -/

theorem frames_map_mapFrames {α : Type} (P : Block → α) (f : Block → Block) (hf : ∀ b, P (f b) = P b) (s : St) :
    (s.mapFrames f).frames.map P = s.frames.map P := by
  rw [frames_mapFrames, List.map_map]
  exact List.map_congr_left fun b _ => hf b

theorem frames_map_mapCur {α : Type} (P : Block → α) (f : Block → Block) (hf : ∀ b, P (f b) = P b) (s : St) :
    (s.mapCur f).frames.map P = s.frames.map P := by
  unfold St.mapCur St.frames
  cases s.inner <;> simp [hf]

/-- the root is the last live block, so equal projections of the path are equal projections of the root
and of the inner blocks -/
theorem root_inner_of_frames_map {α : Type} {P : Block → α} {s s' : St} (h : s'.frames.map P = s.frames.map P) :
    P s'.root = P s.root ∧ s'.inner.map P = s.inner.map P := by
  unfold St.frames at h
  rw [List.map_append, List.map_append] at h
  obtain ⟨h1, h2⟩ := List.append_inj' h rfl
  exact ⟨by simpa using h2, h1⟩

theorem root_mapCur {α : Type} (P : Block → α) (f : Block → Block) (hf : ∀ b, P (f b) = P b) (s : St) :
    P (s.mapCur f).root = P s.root :=
  (root_inner_of_frames_map (frames_map_mapCur P f hf s)).1

theorem exists_of_map_eq {α β : Type} {P : α → β} {l l' : List α} (h : l'.map P = l.map P) {b : α} (hb : b ∈ l') :
    ∃ b0 ∈ l, P b0 = P b :=
  List.mem_map.mp (h ▸ List.mem_map_of_mem hb)

theorem frames_enter (s : St) : s.enter.frames = s.cur.child :: s.frames := by
  simp [St.enter, St.frames]

theorem root_enter (s : St) : s.enter.root = s.root := rfl

theorem frames_leave (s : St) : (s.inner = [] ∧ s.leave.2 = s) ∨ ∃ p rest, s.frames = s.cur :: p :: rest ∧
    s.leave.2.frames = { p with children := p.children ++ [s.cur] } :: rest := by
  unfold St.leave St.frames St.cur
  cases s.inner with
  | nil => exact Or.inl ⟨rfl, rfl⟩
  | cons b rest => cases rest <;> exact Or.inr ⟨_, _, rfl, rfl⟩

theorem inner_length_leave (s : St) (h : s.inner ≠ []) : s.leave.2.inner.length + 1 = s.inner.length := by
  unfold St.leave
  cases hi : s.inner with
  | nil => exact absurd hi h
  | cons b rest => cases rest <;> rfl

theorem mem_frames_leave (s : St) : ∀ b ∈ s.leave.2.frames,
    ∃ b' ∈ s.frames, b.context = b'.context ∧ b.values = b'.values ∧ b.innerNames = b'.innerNames ∧
      b.labels = b'.labels ∧ b.reg = b'.reg ∧ b.manualReturn = b'.manualReturn := by
  intro b hb
  unfold St.leave at hb
  unfold St.frames
  cases hi : s.inner with
  | nil => rw [hi] at hb; simp [St.frames, hi] at hb; subst hb; exact ⟨s.root, by simp, rfl, rfl, rfl, rfl, rfl, rfl⟩
  | cons b0 rest =>
    rw [hi] at hb
    cases rest with
    | nil =>
      simp [St.frames] at hb; subst hb
      exact ⟨s.root, by simp, rfl, rfl, rfl, rfl, rfl, rfl⟩
    | cons p rest' =>
      simp [St.frames] at hb
      rcases hb with rfl | hb | rfl
      · exact ⟨p, by simp, rfl, rfl, rfl, rfl, rfl, rfl⟩
      · exact ⟨b, by simp [hb], rfl, rfl, rfl, rfl, rfl, rfl⟩
      · exact ⟨s.root, by simp, rfl, rfl, rfl, rfl, rfl, rfl⟩

theorem root_leave_fields (s : St) :
    s.leave.2.root.context = s.root.context ∧ s.leave.2.root.values = s.root.values ∧
    s.leave.2.root.innerNames = s.root.innerNames ∧ s.leave.2.root.labels = s.root.labels ∧
    s.leave.2.root.reg = s.root.reg ∧ s.leave.2.root.manualReturn = s.root.manualReturn := by
  unfold St.leave
  cases s.inner with
  | nil => simp
  | cons b rest => cases rest <;> simp

theorem inner_leave (s : St) : ∀ b ∈ s.leave.2.inner,
    ∃ b' ∈ s.inner, b.context = b'.context ∧ b.values = b'.values ∧ b.innerNames = b'.innerNames ∧
      b.labels = b'.labels ∧ b.reg = b'.reg ∧ b.manualReturn = b'.manualReturn := by
  intro b hb
  unfold St.leave at hb
  cases hi : s.inner with
  | nil => rw [hi] at hb; simp [hi] at hb
  | cons b0 rest =>
    rw [hi] at hb
    cases rest with
    | nil => simp at hb
    | cons p rest' =>
      simp at hb
      rcases hb with rfl | hb
      · exact ⟨p, by simp, rfl, rfl, rfl, rfl, rfl, rfl⟩
      · exact ⟨b, by simp [hb], rfl, rfl, rfl, rfl, rfl, rfl⟩

theorem assocGet_mem {β : Type} (n : Name) (l : List (Name × β)) (v : β) (h : assocGet n l = some v) : (n, v) ∈ l := by
  induction l with
  | nil => simp [assocGet] at h
  | cons x xs ih =>
    obtain ⟨k, w⟩ := x
    unfold assocGet at h
    split at h
    · rename_i hk; injection h with h; subst h; subst hk; simp
    · simp [ih h]

theorem lookupValue_mem (s : St) (n : Name) (v : Value) (h : s.lookupValue n = some v) :
    ∃ b ∈ s.frames, (n, v) ∈ b.values := by
  unfold St.lookupValue at h
  obtain ⟨b, hb, hv⟩ := List.exists_of_findSome?_eq_some h
  exact ⟨b, hb, assocGet_mem n _ v hv⟩

theorem mem_assocInsert {β : Type} (k : Name) (v : β) (l : List (Name × β)) (x : Name × β)
    (h : x ∈ assocInsert k v l) : x = (k, v) ∨ x ∈ l := by
  induction l with
  | nil => simp [assocInsert] at h; exact Or.inl h
  | cons y ys ih =>
    obtain ⟨k', v'⟩ := y
    unfold assocInsert at h
    split at h
    · simp at h
      rcases h with h | h
      · exact Or.inl h
      · exact Or.inr (by simp [h])
    · simp at h
      rcases h with h | h
      · exact Or.inr (by simp [h])
      · rcases ih h with h | h
        · exact Or.inl h
        · exact Or.inr (by simp [h])

theorem mem_setInsert (k x : Name) (l : List Name) : x ∈ setInsert k l ↔ x = k ∨ x ∈ l := by
  unfold setInsert
  split
  · rename_i h
    constructor
    · intro hx; exact Or.inr hx
    · rintro (rfl | hx)
      · simpa using h
      · exact hx
  · simp; exact Or.comm

theorem innerUsed_false_root {s : St} {n : Name} (h : s.innerUsed n = false) : n ∉ s.root.innerNames := by
  intro hm
  have : s.innerUsed n = true :=
    List.any_eq_true.mpr ⟨s.root, mem_frames.mpr (Or.inr rfl), List.contains_iff_mem.mpr hm⟩
  rw [h] at this; cases this

/-! Errors only grow across every step; the nesting depth stays across expression-level steps. -/

theorem errors_ext_trans {a b c : St} (h1 : ∃ Δ, b.errors = a.errors ++ Δ) (h2 : ∃ Δ, c.errors = b.errors ++ Δ) :
    ∃ Δ, c.errors = a.errors ++ Δ := by
  obtain ⟨Δ1, h1⟩ := h1
  obtain ⟨Δ2, h2⟩ := h2
  exact ⟨Δ1 ++ Δ2, by rw [h2, h1, List.append_assoc]⟩

theorem errors_ext_of_eq {a b : St} (h : b.errors = a.errors) : ∃ Δ, b.errors = a.errors ++ Δ :=
  ⟨[], by rw [h, List.append_nil]⟩

theorem errors_ext_ite {α : Type} (f : α → St) {s : St} {p : Prop} [Decidable p] {a b : α}
    (ha : ∃ Δ, (f a).errors = s.errors ++ Δ) (hb : ∃ Δ, (f b).errors = s.errors ++ Δ) :
    ∃ Δ, (f (if p then a else b)).errors = s.errors ++ Δ := by
  split <;> assumption

theorem errors_mapCur (f : Block → Block) (s : St) : (s.mapCur f).errors = s.errors := by
  unfold St.mapCur; split <;> rfl

theorem setPanic_errors (site : Nat) (s : St) : (s.setPanic site).errors = s.errors := by
  unfold St.setPanic; split <;> rfl

theorem errors_declare (n inner : Name) (v : Value) (i : Instr) (s : St) :
    (((s.insertValue n v).registerInner inner).push i).errors = s.errors := errors_mapCur _ s

theorem EStep.errors_ext {s s' : St} (st : EStep s s') : ∃ Δ, s'.errors = s.errors ++ Δ := by
  cases st with
  | incReg => exact errors_ext_of_eq rfl
  | emit i _ _ _ _ => exact errors_ext_of_eq rfl
  | incEmit i _ _ _ _ => exact errors_ext_of_eq rfl
  | addErr k v l o => exact ⟨[⟨k, v, l, o⟩], rfl⟩
  | declare n v i _ _ _ _ _ => exact errors_ext_of_eq (errors_declare ..)

theorem ESteps.errors_ext {s s' : St} (h : ESteps s s') : ∃ Δ, s'.errors = s.errors ++ Δ := by
  induction h with
  | refl => exact errors_ext_of_eq rfl
  | tail _ st ih => exact errors_ext_trans ih st.errors_ext

theorem BSteps.errors_ext {s s' : St} (h : BSteps s s') : ∃ Δ, s'.errors = s.errors ++ Δ := by
  obtain ⟨s1, h1, rfl | ⟨i, rfl, _⟩⟩ := h
  · exact h1.errors_ext
  · exact h1.errors_ext

theorem EM.errors_ext {m : EvalM} (h : EM m) (s : St) : ∃ Δ, (m s).2.errors = s.errors ++ Δ := (h s).errors_ext

theorem leave_errors (s : St) : s.leave.2.errors = s.errors := by
  unfold St.leave; split <;> rfl

theorem pushVia_errors (k : Nat) (i : Instr) (s : St) : (s.pushVia k i).errors = s.errors := errors_mapCur _ s

theorem Step.errors_ext {s s' : St} (st : Step s s') : ∃ Δ, s'.errors = s.errors ++ Δ := by
  cases st with
  | e he => exact he.errors_ext
  | enter => exact errors_ext_of_eq rfl
  | leave => exact errors_ext_of_eq (leave_errors s)
  | regLabel l _ => exact errors_ext_of_eq rfl
  | ctl i _ _ _ => exact errors_ext_of_eq rfl
  | emitRet i _ _ _ _ _ => exact errors_ext_of_eq rfl
  | ctlVia k i _ _ _ => exact errors_ext_of_eq (pushVia_errors k i s)
  | setReturn => exact errors_ext_of_eq rfl
  | setPanic site => exact errors_ext_of_eq (setPanic_errors site s)

theorem Steps.errors_ext {s s' : St} (h : Steps s s') : ∃ Δ, s'.errors = s.errors ++ Δ := by
  induction h with
  | refl => exact errors_ext_of_eq rfl
  | tail _ st ih => exact errors_ext_trans ih st.errors_ext

theorem inner_len_mapFrames (f : Block → Block) (s : St) : (s.mapFrames f).inner.length = s.inner.length :=
  List.length_map f

theorem inner_len_mapCur (f : Block → Block) (s : St) : (s.mapCur f).inner.length = s.inner.length := by
  unfold St.mapCur; cases s.inner <;> rfl

theorem EStep.inner_len {s s' : St} (st : EStep s s') : s'.inner.length = s.inner.length := by
  cases st with
  | incReg => exact inner_len_mapFrames _ s
  | emit i _ _ _ _ => exact inner_len_mapFrames _ s
  | incEmit i _ _ _ _ => exact (inner_len_mapFrames _ _).trans (inner_len_mapFrames _ s)
  | addErr k v l o => rfl
  | declare n v i _ _ _ _ _ =>
    exact ((inner_len_mapFrames _ _).trans (inner_len_mapFrames _ _)).trans (inner_len_mapCur _ s)

theorem ESteps.inner_len {s s' : St} (h : ESteps s s') : s'.inner.length = s.inner.length := by
  induction h with
  | refl => rfl
  | tail _ st ih => rw [st.inner_len, ih]

theorem BSteps.inner_len {s s' : St} (h : BSteps s s') : s'.inner.length = s.inner.length := by
  obtain ⟨s1, h1, rfl | ⟨i, rfl, _⟩⟩ := h
  · exact h1.inner_len
  · exact (inner_len_mapFrames _ s1).trans h1.inner_len

theorem push_fields (i : Instr) (s : St) :
    (s.push i).errors = s.errors ∧ (s.push i).inner.length = s.inner.length :=
  ⟨rfl, inner_len_mapFrames _ s⟩

theorem pushVia_fields (k : Nat) (i : Instr) (s : St) :
    (s.pushVia k i).errors = s.errors ∧ (s.pushVia k i).inner.length = s.inner.length :=
  ⟨pushVia_errors k i s, (inner_len_mapFrames _ _).trans (inner_len_mapCur _ s)⟩

end SemVerif
