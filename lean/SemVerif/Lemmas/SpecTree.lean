import SemVerif.Spec.RuleSet
import SemVerif.Props.C07
/-!
# Lemmas/SpecTree — the independent reference tree is the fold's tree

`specTree` (DESIGN §3.5: the root is the rightmost operator of minimal priority, recursively on both
sides) has the chain's in-order token sequence and satisfies the priority constraints; by the
uniqueness theorem of C07 it is therefore equal to the tree of the operator-stack fold, for every
priority table, operand type and chain length.
-/
namespace SemVerif

/-- the `k` of `specTreeF`, given the priorities: position of the rightmost minimal entry -/
def rmin (ps : List Nat) : Nat :=
  (ps.length - 1) - ((ps.reverse.findIdx? (· == ps.foldl Nat.min (ps.headD 0))).getD 0)

theorem findIdx?_split {β : Type} {p : β → Bool} {l : List β} {j : Nat} (h : l.findIdx? p = some j) :
    ∃ a y b, l = a ++ y :: b ∧ a.length = j ∧ p y = true ∧ ∀ z ∈ a, p z = false := by
  obtain ⟨hj, hp, hlt⟩ := List.findIdx?_eq_some_iff_getElem.mp h
  refine ⟨l.take j, l[j], l.drop (j + 1), ?_, List.length_take_of_le (Nat.le_of_lt hj), hp, fun z hz => ?_⟩
  · rw [← List.drop_eq_getElem_cons hj, List.take_append_drop]
  · obtain ⟨i, hi, rfl⟩ := List.mem_take_iff_getElem.mp hz
    exact Bool.not_eq_true _ ▸ hlt i (Nat.lt_of_lt_of_le hi (Nat.min_le_left _ _))

theorem rmin_split {β : Type} (f : β → Nat) (l : List β) (hne : l ≠ []) :
    ∃ a y b, l = a ++ y :: b ∧ rmin (l.map f) = a.length ∧ (∀ z ∈ a, f y ≤ f z) ∧ (∀ z ∈ b, f y < f z) := by
  -- `m` is the minimal key
  have hm : ∃ m, (l.map f).foldl Nat.min ((l.map f).headD 0) = m ∧ m ∈ l.map f ∧ ∀ k ∈ l.map f, m ≤ k := by
    obtain ⟨x, t, rfl⟩ := List.exists_cons_of_ne_nil hne
    obtain ⟨hmem, hle⟩ := List.min?_eq_some_iff.mp (List.min?_cons' (x := f x) (xs := t.map f))
    exact ⟨_, congrArg ((t.map f).foldl min) (Nat.min_self (f x)), hmem, hle⟩
  obtain ⟨m, hm, hmem, hle⟩ := hm
  unfold rmin
  rw [hm, ← List.map_reverse, List.findIdx?_map, List.length_map]
  -- `y` is the first entry with that key from the right
  cases hf : l.reverse.findIdx? ((· == m) ∘ f) with
  | none =>
    obtain ⟨z, hz, hzm⟩ := List.mem_map.mp hmem
    cases (beq_iff_eq.mpr hzm).symm.trans (List.findIdx?_eq_none_iff.mp hf z (List.mem_reverse.mpr hz))
  | some j =>
    obtain ⟨b, y, a, e, hb, hy, hbm⟩ := findIdx?_split hf
    have hl : l = a.reverse ++ y :: b.reverse := by
      rw [← List.reverse_reverse l, e, List.reverse_append, List.reverse_cons, List.append_assoc]
      rfl
    subst hl
    rw [Function.comp_apply, beq_iff_eq] at hy
    refine ⟨_, y, _, rfl, ?_, fun z hz => ?_, fun z hz => ?_⟩
    · rw [Option.getD_some, List.length_append, List.length_cons, List.length_reverse, List.length_reverse, hb,
        Nat.add_succ_sub_one, Nat.add_sub_cancel]
    · rw [hy]
      exact hle _ (List.mem_map_of_mem (List.mem_append_left _ hz))
    · rw [hy]
      refine Nat.lt_of_le_of_ne (hle _ (List.mem_map_of_mem (List.mem_append_right _ (List.mem_cons_of_mem _ hz)))) ?_
      have := hbm z (List.mem_reverse.mp hz)
      rw [Function.comp_apply, beq_eq_false_iff_ne] at this
      exact fun h => this h.symm

variable {α : Type} (prio : Op → Nat)

theorem chainFlat_append (v : α) (l : List (Op × α)) (o : Op) (w : α) (r : List (Op × α)) :
    chainFlat v (l ++ (o, w) :: r) = chainFlat v l ++ Tok.op o :: chainFlat w r := by
  unfold chainFlat
  simp [List.flatMap_append]

theorem ops_of_flat (t : W α) (v : α) (rest : List (Op × α)) (h : t.flat = chainFlat v rest) :
    ∀ o, o ∈ t.ops ↔ o ∈ rest.map (·.1) := by
  intro o
  rw [← mem_flat_op, h]
  unfold chainFlat
  simp only [List.mem_cons, reduceCtorEq, List.mem_flatMap, List.mem_map, false_or]
  constructor
  · rintro ⟨x, hx, hm⟩
    simp at hm
    exact ⟨x, hx, hm.symm⟩
  · rintro ⟨x, hx, rfl⟩
    exact ⟨x, hx, by simp⟩

theorem specTreeF_step (fuel : Nat) (v : α) {rest : List (Op × α)} (hne : rest ≠ []) :
    ∃ l o w r, rest = l ++ (o, w) :: r ∧ (∀ y ∈ l, prio o ≤ prio y.1) ∧ (∀ y ∈ r, prio o < prio y.1) ∧
      specTreeF prio (fuel + 1) v rest = .pair (specTreeF prio fuel v l) o (specTreeF prio fuel w r) := by
  obtain ⟨l, ⟨o, w⟩, r, e, hk, hl, hr⟩ := rmin_split (fun y : Op × α => prio y.1) rest hne
  refine ⟨l, o, w, r, e, hl, hr, ?_⟩
  obtain ⟨x, xs, rfl⟩ := List.exists_cons_of_ne_nil hne
  show (match List.drop (rmin ((x :: xs).map fun (y : Op × α) => prio y.1)) (x :: xs) with
    | [] => W.atom v
    | (o, w) :: right =>
      W.pair (specTreeF prio fuel v (List.take (rmin ((x :: xs).map fun (y : Op × α) => prio y.1)) (x :: xs))) o
        (specTreeF prio fuel w right)) = _
  rw [hk, e, List.drop_left' rfl, List.take_left' rfl]

theorem specTreeF_correct (fuel : Nat) : ∀ (v : α) (rest : List (Op × α)), rest.length < fuel →
    (specTreeF prio fuel v rest).flat = chainFlat v rest ∧ Correct prio (specTreeF prio fuel v rest) := by
  induction fuel with
  | zero => intro _ _ h; exact absurd h (Nat.not_lt_zero _)
  | succ fuel ih =>
    intro v rest hfuel
    by_cases hne : rest = []
    · subst hne; exact ⟨rfl, trivial⟩
    · obtain ⟨l, o, w, r, rfl, hleft, hright, e⟩ := specTreeF_step prio fuel v hne
      rw [List.length_append, List.length_cons] at hfuel
      have hlen : l.length + r.length < fuel := Nat.lt_of_succ_lt_succ hfuel
      obtain ⟨fl, cl⟩ := ih v l (Nat.lt_of_le_of_lt (Nat.le_add_right _ _) hlen)
      obtain ⟨fr, cr⟩ := ih w r (Nat.lt_of_le_of_lt (Nat.le_add_left _ _) hlen)
      rw [e]
      refine ⟨?_, cl, cr, fun o' ho' => ?_, fun o' ho' => ?_⟩
      · show (specTreeF prio fuel v l).flat ++ Tok.op o :: (specTreeF prio fuel w r).flat = _
        rw [fl, fr, chainFlat_append]
      · obtain ⟨y, hy, rfl⟩ := List.mem_map.mp ((ops_of_flat _ _ _ fl o').mp ho')
        exact hleft y hy
      · obtain ⟨y, hy, rfl⟩ := List.mem_map.mp ((ops_of_flat _ _ _ fr o').mp ho')
        exact hright y hy

theorem specTree_correct (v : α) (rest : List (Op × α)) :
    (specTree prio v rest).flat = chainFlat v rest ∧ Correct prio (specTree prio v rest) :=
  specTreeF_correct prio _ v rest (Nat.lt_succ_self _)

theorem specTree_eq_fold (v : α) (rest : List (Op × α)) : specTree prio v rest = precTree prio v rest :=
  C07_fold_unique prio v rest _ (specTree_correct prio v rest).1 (specTree_correct prio v rest).2

end SemVerif
