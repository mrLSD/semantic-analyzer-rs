import SemVerif.Lemmas.T2Fn
import SemVerif.Lemmas.T1Fn
import SemVerif.Lemmas.BodySpec
import SemVerif.Lemmas.ExtEvents
/-!
# Lemmas/RuleLock — the source denotation of a rule-abiding function

Pure specification-side lockstep between the rule checker (`Spec/RuleSet.lean`) and the source
denotation (`Spec/Denote.lean`): when the checker reports nothing on a function (no violation at
all, enforced or not), both traversals carry the same type scope, every call event of the
denotation passes exactly as many arguments as the callee declares, and every nested-return event
carries the function's result type (`EvOK`).  Together with `T2` this transports the two rules the
analyzer does not enforce (findings F8, F9) to the emitted stack.
-/
namespace SemVerif

def EvOK (rg : RGlobals) (R : Ty) : DStmt → Prop
  | .callS (.call f ts) => ∃ ps res, rlookup f rg.funcs = some (ps, res) ∧ ts.length = ps.length
  | .jret t _ => t = R
  | _ => True

def NV (c : ERes) : Prop := c.2 = none → c.1 ≠ []

theorem nv_eOk (t : Ty) : NV (eOk t) := nofun

theorem nv_eFail (r : String) (k : ErrKind) (n : Name) : NV (eFail r k n) := fun _ => List.cons_ne_nil _ _

theorem NV.typed {c : ERes} (hn : NV c) (hq : c.1 = []) : ∃ t, c = ([], some t) := by
  obtain ⟨vs, t⟩ := c
  cases t with
  | none => exact absurd hq (hn rfl)
  | some t => exact ⟨t, by rw [show vs = [] from hq]⟩

theorem snoc_ne_nil {α : Type} (l : List α) (a : α) : l ++ [a] ≠ [] :=
  List.append_ne_nil_of_right_ne_nil _ (List.cons_ne_nil _ _)

theorem checkPair_quiet {l r : ERes} (hl : NV l) (hr : NV r) :
    NV (checkPair l r) ∧ ((checkPair l r).1 = [] → ∃ t, l = ([], some t) ∧ r = ([], some t)) := by
  obtain ⟨vl, tl⟩ := l
  obtain ⟨vr, tr⟩ := r
  unfold checkPair
  cases tl with
  | none => exact ⟨hl, fun h => absurd h (hl rfl)⟩
  | some tl =>
    cases tr with
    | none =>
      exact ⟨fun _ h => hr rfl (List.append_eq_nil_iff.mp h).2, fun h => absurd (List.append_eq_nil_iff.mp h).2 (hr rfl)⟩
    | some tr =>
      dsimp only
      split
      · exact ⟨fun _ => snoc_ne_nil _ _, fun h => absurd h (snoc_ne_nil _ _)⟩
      · rename_i he
        refine ⟨(fun h => nomatch h), fun h => ?_⟩
        obtain ⟨rfl, rfl⟩ := List.append_eq_nil_iff.mp h
        exact ⟨tr, by rw [Decidable.not_not.mp he], rfl⟩

theorem checkPair_same (t : Ty) : checkPair ([], some t) ([], some t) = ([], some t) := by
  simp [checkPair]

theorem atoms_map {α β : Type} (f : α → β) : ∀ (t : W α), (t.map f).atoms = t.atoms.map f
  | .atom a => rfl
  | .pair l _ r => by simp [W.map, W.atoms, atoms_map f l, atoms_map f r]

/-- a tree of operands: when the checker is quiet on the tree, it is quiet on every operand, so what
holds of the events of every quiet operand holds of the events of the tree -/
theorem tree_lock {γ : Type} (cv : γ → ERes) (dv : γ → Den) (P : DStmt → Prop) (t : W γ)
    (h : ∀ a ∈ t.atoms, NV (cv a) ∧ ((cv a).1 = [] → ∀ ev ∈ (dv a).1, P ev)) :
    NV (checkTree (t.map cv)) ∧ ((checkTree (t.map cv)).1 = [] → ∀ ev ∈ (denTree (t.map dv)).1, P ev) := by
  induction t with
  | atom a => exact h a (List.mem_singleton_self a)
  | pair l o r ihl ihr =>
    have hl := ihl fun a ha => h a (List.mem_append_left _ ha)
    have hr := ihr fun a ha => h a (List.mem_append_right _ ha)
    refine ⟨(checkPair_quiet hl.1 hr.1).1, fun hq ev hev => ?_⟩
    obtain ⟨t, el, er⟩ := (checkPair_quiet hl.1 hr.1).2 hq
    rcases List.mem_append.mp hev with hev | hev
    · exact hl.2 (by rw [el]) ev hev
    · exact hr.2 (by rw [er]) ev hev

theorem checkArgs_quiet (as : List ERes) : ∀ (ps : List Ty), (∀ a ∈ as, NV a) → as.length ≤ ps.length →
    checkArgs as ps = [] → as.length = ps.length ∧ ∀ a ∈ as, a.1 = [] := by
  induction as with
  | nil =>
    intro ps _ _ h
    cases ps with
    | nil => exact ⟨rfl, fun _ h => nomatch h⟩
    | cons => cases h
  | cons a as ih =>
    intro ps hnv hl h
    cases ps with
    | nil => exact absurd hl (Nat.not_succ_le_zero _)
    | cons tp ps =>
      obtain ⟨va, ta⟩ := a
      cases ta with
      | none => exact absurd h (hnv _ List.mem_cons_self rfl)
      | some ta =>
        rw [checkArgs_cons_some] at h
        by_cases hne : ta ≠ tp
        · rw [if_pos hne] at h
          exact absurd h (snoc_ne_nil _ _)
        · rw [if_neg hne] at h
          obtain ⟨h1, h2⟩ := List.append_eq_nil_iff.mp h
          obtain ⟨q1, q2⟩ := ih ps (fun a ha => hnv a (List.mem_cons_of_mem _ ha)) (Nat.le_of_succ_le_succ hl) h2
          refine ⟨congrArg Nat.succ q1, fun a ha => ?_⟩
          rcases List.mem_cons.mp ha with rfl | ha
          · exact h1
          · exact q2 a ha

theorem checkCall_quiet {rg : RGlobals} {f : Name} {args : List ERes} (hnv : ∀ a ∈ args, NV a) :
    NV (checkCall rg f args) ∧ ((checkCall rg f args).1 = [] →
      ∃ ps res, rlookup f rg.funcs = some (ps, res) ∧ args.length = ps.length ∧ (∀ a ∈ args, a.1 = []) ∧
        checkCall rg f args = ([], some res)) := by
  unfold checkCall
  cases rlookup f rg.funcs with
  | none => exact ⟨nv_eFail _ _ _, fun hq => nomatch hq⟩
  | some pr =>
    dsimp only
    by_cases hlen : pr.1.length < args.length
    · rw [if_pos hlen]
      exact ⟨nv_eFail _ _ _, fun hq => nomatch hq⟩
    · rw [if_neg hlen]
      cases hany : (checkArgs args pr.1).any (·.enforced) with
      | true =>
        have hne : checkArgs args pr.1 ≠ [] := fun hq => by rw [hq] at hany; cases hany
        exact ⟨fun _ => hne, fun hq => absurd hq hne⟩
      | false =>
        refine ⟨(fun h => nomatch h), fun hq => ?_⟩
        obtain ⟨q1, q2⟩ := checkArgs_quiet args pr.1 hnv (Nat.le_of_not_lt hlen) hq
        exact ⟨pr.1, pr.2, rfl, q1, q2, by rw [show checkArgs args pr.1 = [] from hq]; rfl⟩

theorem specArgs_len (ss : SpecSt) : ∀ (as : List Expr), (specArgs false ss as).2.length = as.length
  | [] => rfl
  | _ :: es => congrArg Nat.succ (specArgs_len ss es)

theorem specArgs_events (ss : SpecSt) : ∀ (as : List Expr),
    (specArgs false ss as).1 = as.flatMap fun e => (specExpr false ss e).1
  | [] => rfl
  | e :: es => congrArg ((specExpr false ss e).1 ++ ·) (specArgs_events ss es)

theorem nv_checkVar (rg : RGlobals) (sc : Scope) (x : Name) : NV (checkVar rg sc x) := by
  unfold checkVar
  split
  · exact nv_eOk _
  · split
    · exact nv_eOk _
    · exact nv_eFail _ _ _

theorem nv_checkField (rg : RGlobals) (sc : Scope) (x a : Name) : NV (checkField rg sc x a) := by
  unfold checkField
  split
  · exact nv_eFail _ _ _
  · split
    · split
      · exact nv_eFail _ _ _
      · split
        · exact nv_eFail _ _ _
        · split
          · exact nv_eFail _ _ _
          · exact nv_eOk _
    · exact nv_eFail _ _ _

theorem checkExpr_mk (rg : RGlobals) (sc : Scope) (v : ExprValue) (rest : Option (Op × Expr)) :
    checkExpr rg sc (.mk v rest) = checkTree ((foldChain Generated.prio v (chainTail rest)).map (checkVal rg sc)) := by
  rw [← foldChain_map Generated.prio (checkVal rg sc), ← checkRest_eq]
  rfl

theorem specExpr_mk (ss : SpecSt) (v : ExprValue) (rest : Option (Op × Expr)) :
    specExpr false ss (.mk v rest) = denTree ((foldChain Generated.prio v (chainTail rest)).map (specVal false ss)) := by
  rw [← foldChain_map Generated.prio (specVal false ss), ← specRest_eq]
  rfl

mutual
theorem lockE (rg : RGlobals) (R : Ty) (sc : Scope) (ss : SpecSt) :
    ∀ e, NV (checkExpr rg sc e) ∧ ((checkExpr rg sc e).1 = [] → ∀ ev ∈ (specExpr false ss e).1, EvOK rg R ev)
  | .mk v rest => by
    rw [checkExpr_mk, specExpr_mk]
    refine tree_lock _ _ _ _ fun a ha => ?_
    rw [foldChain_atoms] at ha
    rcases List.mem_cons.mp ha with h | h
    · rw [h]; exact lockV rg R sc ss v
    · exact lockC rg R sc ss rest a h
theorem lockC (rg : RGlobals) (R : Ty) (sc : Scope) (ss : SpecSt) :
    ∀ r, ∀ a ∈ (chainTail r).map (·.2),
      NV (checkVal rg sc a) ∧ ((checkVal rg sc a).1 = [] → ∀ ev ∈ (specVal false ss a).1, EvOK rg R ev)
  | none => by intro a h; rw [chainTail] at h; cases h
  | some (op, .mk v rest) => by
    intro a h
    rw [chainTail, List.map_cons] at h
    rcases List.mem_cons.mp h with h | h
    · rw [h]; exact lockV rg R sc ss v
    · exact lockC rg R sc ss rest a h
theorem lockV (rg : RGlobals) (R : Ty) (sc : Scope) (ss : SpecSt) :
    ∀ v, NV (checkVal rg sc v) ∧ ((checkVal rg sc v).1 = [] → ∀ ev ∈ (specVal false ss v).1, EvOK rg R ev)
  | .var n => ⟨nv_checkVar rg sc n, fun _ _ h => nomatch h⟩
  | .lit v => ⟨nv_eOk _, fun _ _ h => nomatch h⟩
  | .call f args => by
    have hargs := lockA rg R sc ss args
    have hc := checkCall_quiet (rg := rg) (f := f) (List.forall_mem_map.mpr fun e he => (hargs e he).1)
    rw [← checkExprs_eq] at hc
    refine ⟨hc.1, fun hq ev
      (hev : ev ∈ (specArgs false ss args).1 ++ [DStmt.callS (.call f (specArgs false ss args).2)]) => ?_⟩
    obtain ⟨ps, res, hf, hlen, hqa, _⟩ := hc.2 hq
    rw [checkExprs_eq] at hlen hqa
    rcases List.mem_append.mp hev with hev | hev
    · rw [specArgs_events, List.mem_flatMap] at hev
      obtain ⟨e, he, hev⟩ := hev
      exact (hargs e he).2 (hqa _ (List.mem_map_of_mem he)) ev hev
    · rw [List.mem_singleton.mp hev]
      exact ⟨ps, res, hf, by rw [specArgs_len, ← hlen, List.length_map]⟩
  | .field v a => ⟨nv_checkField rg sc v a, fun _ _ h => nomatch h⟩
  | .sub e => lockE rg R sc ss e
  | .ext tag ty => ⟨nv_eOk _, fun _ ev (h : ev ∈ [DStmt.extS tag]) => by rw [List.mem_singleton.mp h]; trivial⟩
theorem lockA (rg : RGlobals) (R : Ty) (sc : Scope) (ss : SpecSt) :
    ∀ (as : List Expr), ∀ e ∈ as,
      NV (checkExpr rg sc e) ∧ ((checkExpr rg sc e).1 = [] → ∀ ev ∈ (specExpr false ss e).1, EvOK rg R ev)
  | [] => by intro e h; cases h
  | a :: as => by
    intro e h
    rcases List.mem_cons.mp h with h | h
    · rw [h]; exact lockE rg R sc ss a
    · exact lockA rg R sc ss as e h
end

theorem nv_checkExpr (rg : RGlobals) (sc : Scope) (e : Expr) : NV (checkExpr rg sc e) :=
  (lockE rg default sc default e).1

theorem nv_checkVal (rg : RGlobals) (sc : Scope) (v : ExprValue) : NV (checkVal rg sc v) :=
  (lockV rg default sc default v).1

structure Lk (rg : RGlobals) (R : Ty) (rs : RS) (ss : SpecSt) : Prop where
  quiet : rs.viols = []
  scope : rs.scope = ss.tscope
  evs : ∀ ev ∈ ss.out, EvOK rg R ev

theorem nil_of_rext {rs rs' : RS} (h : RExt rs rs') (h' : rs'.viols = []) : rs.viols = [] := by
  obtain ⟨Δ, hΔ⟩ := h
  rw [hΔ, List.append_eq_nil_iff] at h'
  exact h'.1

theorem add_nil {rs : RS} {vs : List Viol} (h : (rs.add vs).viols = []) : rs.viols = [] ∧ vs = [] :=
  List.append_eq_nil_iff.mp h

theorem viol_ne_nil (rs : RS) (r : String) (k : ErrKind) (n : Name) : (rs.viol r k n).viols ≠ [] :=
  snoc_ne_nil _ _

variable {rg : RGlobals} {R : Ty}

theorem optViol_scope (c : Prop) [Decidable c] (rs : RS) (r : String) (k : ErrKind) (n : Name) :
    (if c then rs.viol r k n else rs).scope = rs.scope := by
  split <;> rfl

theorem codeAfter_scope (rc bc cc : Bool) (rs : RS) : (codeAfter rc bc cc rs).scope = rs.scope := by
  unfold codeAfter
  dsimp only
  rw [optViol_scope, optViol_scope, optViol_scope]

theorem let_quiet {b : LetB} {rs : RS} (hq : (checkLet rg b rs).viols = []) :
    ∃ t, checkExpr rg rs.scope b.value = ([], some t) ∧ letTypeBad b.ty t = false ∧
      (checkLet rg b rs).scope = rs.scope.declare b.name t b.mutable := by
  have hn := nv_checkExpr rg rs.scope b.value
  unfold checkLet at hq ⊢
  generalize checkExpr rg rs.scope b.value = c at hq hn ⊢
  obtain ⟨vs, t⟩ := c
  cases t with
  | none => exact absurd (add_nil hq).2 (hn rfl)
  | some t =>
    dsimp only at hq ⊢
    cases hb : letTypeBad b.ty t with
    | true => rw [hb, if_pos rfl] at hq; exact absurd hq (viol_ne_nil _ _ _ _)
    | false =>
      rw [hb, if_neg Bool.false_ne_true] at hq
      rw [if_neg Bool.false_ne_true]
      obtain ⟨_, rfl⟩ := add_nil hq
      exact ⟨t, rfl, hb, rfl⟩

theorem bind_ok (b : Bind) (rs : RS) :
    (checkBind rg b rs).scope = rs.scope ∧ ((checkBind rg b rs).viols = [] → (checkExpr rg rs.scope b.value).1 = []) := by
  unfold checkBind
  generalize checkExpr rg rs.scope b.value = c
  obtain ⟨vs, t⟩ := c
  cases t with
  | none => exact ⟨rfl, fun hq => (add_nil hq).2⟩
  | some t =>
    dsimp only
    cases (rs.add vs).scope.lookup b.name with
    | none => exact ⟨rfl, fun hq => absurd hq (viol_ne_nil _ _ _ _)⟩
    | some p =>
      dsimp only
      by_cases hm : (!p.2) = true
      · rw [if_pos hm]
        exact ⟨rfl, fun hq => absurd hq (viol_ne_nil _ _ _ _)⟩
      · rw [if_neg hm]
        by_cases ht : p.1 ≠ t
        · rw [if_pos ht]
          exact ⟨rfl, fun hq => absurd hq (viol_ne_nil _ _ _ _)⟩
        · rw [if_neg ht]
          exact ⟨rfl, fun hq => (add_nil hq).2⟩

theorem ifCond_scope (c : IfCond) (rs : RS) : (checkIfCond rg c rs).scope = rs.scope := by
  unfold checkIfCond
  cases c <;> rfl

theorem nret_ok (e : Expr) (rs : RS) :
    (checkNestedRet rg R e rs).1.scope = rs.scope ∧
      ((checkNestedRet rg R e rs).1.viols = [] → checkExpr rg rs.scope e = ([], some R)) := by
  have hn := nv_checkExpr rg rs.scope e
  unfold checkNestedRet
  generalize checkExpr rg rs.scope e = c at hn ⊢
  obtain ⟨vs, t⟩ := c
  cases t with
  | none => exact ⟨rfl, fun hq => absurd (add_nil hq).2 (hn rfl)⟩
  | some t =>
    dsimp only
    by_cases ht : t ≠ R
    · rw [if_pos ht]
      exact ⟨by split <;> rfl, fun hq => absurd (add_nil hq).2 (List.cons_ne_nil _ _)⟩
    · rw [if_neg ht, Decidable.not_not.mp ht]
      by_cases hr : (!typeRegistered rg R) = true
      · rw [if_pos hr]
        exact ⟨rfl, fun hq => absurd (add_nil hq).2 (List.cons_ne_nil _ _)⟩
      · rw [if_neg hr]
        exact ⟨rfl, fun hq => by rw [(add_nil hq).2]⟩

theorem fnret_ok (e : Expr) (rc : Bool) (rs : RS) :
    (checkFnRet rg R e rc rs).1.scope = rs.scope ∧
      ((checkFnRet rg R e rc rs).1.viols = [] → (checkExpr rg rs.scope e).1 = []) := by
  unfold checkFnRet
  dsimp only
  cases (checkExpr rg rs.scope e).2 with
  | none => exact ⟨optViol_scope _ _ _ _ _, fun hq => (add_nil (nil_of_rext (optViol_ext _ _ _ _ _) hq)).2⟩
  | some t =>
    refine ⟨?_, fun hq => (add_nil (nil_of_rext (optViol_ext _ _ _ _ _) (nil_of_rext (rext_checkFnRetTail R e t _) hq))).2⟩
    dsimp only
    unfold checkFnRetTail
    dsimp only
    rw [optViol_scope, optViol_scope, optViol_scope]
    rfl

theorem logic_quiet {sc : Scope} {c : CmpCond} {right : Option (Logic × LogicCond)}
    (hq : checkLogic rg sc (.mk c right) = []) :
    ∃ t, checkExpr rg sc c.left = ([], some t) ∧ checkExpr rg sc c.right = ([], some t) ∧ t.isPrim = true ∧
      ∀ p ∈ right, checkLogic rg sc p.2 = [] := by
  unfold checkLogic at hq
  generalize checkExpr rg sc c.left = cl at hq ⊢
  generalize checkExpr rg sc c.right = cr at hq ⊢
  obtain ⟨vl, tl⟩ := cl
  obtain ⟨vr, tr⟩ := cr
  cases tl with
  | none => exact absurd hq (snoc_ne_nil _ _)
  | some tl =>
    cases tr with
    | none => exact absurd hq (snoc_ne_nil _ _)
    | some tr =>
      dsimp only at hq
      by_cases heq : tl ≠ tr
      · rw [if_pos heq] at hq
        exact absurd hq (snoc_ne_nil _ _)
      · rw [if_neg heq] at hq
        cases Decidable.not_not.mp heq
        by_cases hprim : (!tl.isPrim) = true
        · rw [if_pos hprim] at hq
          exact absurd hq (snoc_ne_nil _ _)
        · rw [if_neg hprim] at hq
          have hp : tl.isPrim = true := by
            cases h : tl.isPrim
            · exact absurd (by rw [h]; rfl) hprim
            · rfl
          cases right with
          | none =>
            obtain ⟨rfl, rfl⟩ := List.append_eq_nil_iff.mp hq
            exact ⟨tl, rfl, rfl, hp, fun _ h => nomatch h⟩
          | some p =>
            obtain ⟨h1, h2⟩ := List.append_eq_nil_iff.mp hq
            obtain ⟨rfl, rfl⟩ := List.append_eq_nil_iff.mp h1
            exact ⟨tl, rfl, rfl, hp, fun _ h => by cases h; exact h2⟩

theorem Lk.emits {rs : RS} {ss : SpecSt} (h : Lk rg R rs ss) {evs : List DStmt} (he : ∀ ev ∈ evs, EvOK rg R ev) :
    Lk rg R rs (ss.emits evs) :=
  ⟨h.quiet, h.scope, List.forall_mem_append.mpr ⟨h.evs, he⟩⟩

theorem Lk.emit {rs : RS} {ss : SpecSt} (h : Lk rg R rs ss) (ev : DStmt) (he : EvOK rg R ev) : Lk rg R rs (ss.emit ev) :=
  h.emits (evs := [ev]) fun _ h => by rw [List.mem_singleton.mp h]; exact he

theorem Lk.to {rs rs' : RS} {ss : SpecSt} (h : Lk rg R rs ss) (hsc : rs'.scope = rs.scope) (hq : rs'.viols = []) :
    Lk rg R rs' ss :=
  ⟨hq, hsc.trans h.scope, h.evs⟩

theorem Lk.declare {rs : RS} {ss : SpecSt} (h : Lk rg R rs ss) (n : Name) (t : Ty) (m : Bool) :
    Lk rg R { rs with scope := rs.scope.declare n t m } (ss.declare n t m).1 :=
  ⟨h.quiet, by rw [SpecSt.declare, ← h.scope], h.evs⟩

theorem Lk.push {rs : RS} {ss : SpecSt} (h : Lk rg R rs ss) : Lk rg R rs.push ss.push :=
  ⟨h.quiet, by rw [RS.push, SpecSt.push, h.scope], h.evs⟩

theorem Lk.pop {rs : RS} {ss : SpecSt} (h : Lk rg R rs ss) : Lk rg R rs.pop ss.pop :=
  ⟨h.quiet, by rw [RS.pop, SpecSt.pop, h.scope], h.evs⟩

theorem lock_let (b : LetB) {rs : RS} {ss : SpecSt} (h : Lk rg R rs ss) (hq : (checkLet rg b rs).viols = []) :
    Lk rg R (checkLet rg b rs) (specLet false rg b ss) := by
  obtain ⟨t, he, _, hsc⟩ := let_quiet hq
  unfold specLet
  rw [← h.scope, he]
  have hv := (lockE rg R rs.scope ss b.value).2 (by rw [he])
  exact (((h.emits hv).declare b.name t b.mutable).emit (.letD _ _ _) trivial).to hsc hq

theorem lock_bind (b : Bind) {rs : RS} {ss : SpecSt} (h : Lk rg R rs ss) (hq : (checkBind rg b rs).viols = []) :
    Lk rg R (checkBind rg b rs) (specBind false b ss) :=
  ((h.emits ((lockE rg R rs.scope ss b.value).2 ((bind_ok b rs).2 hq))).emit (.assign _ _) trivial).to (bind_ok b rs).1 hq

theorem lock_callS (c : CallS) {rs : RS} {ss : SpecSt} (h : Lk rg R rs ss) (hq : (checkCallS rg c rs).viols = []) :
    Lk rg R (checkCallS rg c rs) (specCallS false c ss) :=
  (h.emits ((lockV rg R rs.scope ss (.call c.name c.args)).2 (add_nil hq).2)).to rfl hq

theorem lockL (sc : Scope) (ss : SpecSt) : ∀ (lc : LogicCond), checkLogic rg sc lc = [] →
    ∀ ev ∈ (specLogic false ss lc).1, EvOK rg R ev
  | .mk c right, hq => by
    obtain ⟨t, hl, hr, _, hrest⟩ := logic_quiet hq
    have el := (lockE rg R sc ss c.left).2 (by rw [hl])
    have er := (lockE rg R sc ss c.right).2 (by rw [hr])
    cases right with
    | none => exact List.forall_mem_append.mpr ⟨el, er⟩
    | some p =>
      exact List.forall_mem_append.mpr ⟨List.forall_mem_append.mpr ⟨el, er⟩, lockL sc ss p.2 (hrest p rfl)⟩

theorem lock_ifCond (c : IfCond) {rs : RS} {ss : SpecSt} (h : Lk rg R rs ss) (hq : (checkIfCond rg c rs).viols = []) :
    Lk rg R (checkIfCond rg c rs) (specIfCond false c ss) := by
  unfold checkIfCond at hq
  unfold specIfCond
  cases c with
  | single e => exact ((h.emits ((lockE rg R rs.scope ss e).2 (add_nil hq).2)).emit (.branch _) trivial).to (ifCond_scope _ rs) hq
  | logic lc => exact ((h.emits (lockL rs.scope ss lc (add_nil hq).2)).emit (.branch _) trivial).to (ifCond_scope _ rs) hq

theorem lock_nestedRet (e : Expr) {rs : RS} {ss : SpecSt} (h : Lk rg R rs ss)
    (hq : (checkNestedRet rg R e rs).1.viols = []) :
    Lk rg R (checkNestedRet rg R e rs).1 (specJret false rg e ss) := by
  have he := (nret_ok e rs).2 hq
  unfold specJret
  rw [← h.scope, he]
  exact ((h.emits ((lockE rg R rs.scope ss e).2 (by rw [he]))).emit (.jret _ _) rfl).to (nret_ok e rs).1 hq

theorem rext_checkN_of_codeAfter (st : NStmt) (f : Flags) (rs : RS) : RExt (codeAfter f.rc f.bc f.cc rs) (checkN rg R st f rs).1 := by
  cases st with
  | letB b => exact rext_checkLet rg b _
  | bind b => exact rext_checkBind rg b _
  | call c => exact rext_checkCallS rg c _
  | ifS i => exact rext_checkIf rg R i _
  | loop l => exact rext_pushpop (rext_checkLoopBody rg R l false false false)
  | ret e => exact rext_checkNestedRet rg R e _
  | brk => exact RExt.refl _
  | cont => exact RExt.refl _

theorem lock_nStmt (st : NStmt) (f : Flags) {rs : RS} {ss : SpecSt} (h : Lk rg R rs ss)
    (hq : (checkN rg R st f rs).1.viols = [])
    (hs : st.Sub
      (fun i => ∀ rs ss, Lk rg R rs ss → (checkIf rg R i rs).viols = [] → Lk rg R (checkIf rg R i rs) (specIf false rg i ss))
      (fun l => ∀ rc bc cc rs ss, Lk rg R rs ss → (checkLoopBody rg R l rc bc cc rs).viols = [] →
        Lk rg R (checkLoopBody rg R l rc bc cc rs) (specLoopBody false rg l ss))) :
    Lk rg R (checkN rg R st f rs).1 (specN false rg st ss) := by
  have h0 := h.to (codeAfter_scope f.rc f.bc f.cc rs) (nil_of_rext (rext_checkN_of_codeAfter st f rs) hq)
  unfold checkN at hq ⊢
  generalize codeAfter f.rc f.bc f.cc rs = s0 at hq h0 ⊢
  cases st with
  | letB b => exact lock_let b h0 hq
  | bind b => exact lock_bind b h0 hq
  | call c => exact lock_callS c h0 hq
  | ifS i => exact hs _ _ h0 hq
  | loop l => exact (hs false false false _ _ h0.push hq).pop
  | ret e => exact lock_nestedRet e h0 hq
  | brk => exact h0
  | cont => exact h0

/-- `checkIf` by stages: from a state `s0` with the scope of `s` (B10 may have been reported), the
condition and the first body in a block, then the `else` body in a block or the `else if` -/
theorem checkIf_mk (g : RGlobals) (resTy : Ty) (cond : IfCond) (body : IfBodies) (els : Option IfBodies)
    (elif : Option IfStmt) (s : RS) :
    ∃ s0 : RS, s0.scope = s.scope ∧ checkIf g resTy (.mk cond body els elif) s =
      match els, elif with
      | some eb, _ => (checkBodies g resTy eb (checkBodies g resTy body (checkIfCond g cond s0.push)).pop.push).pop
      | none, some ei => checkIf g resTy ei (checkBodies g resTy body (checkIfCond g cond s0.push)).pop
      | none, none => (checkBodies g resTy body (checkIfCond g cond s0.push)).pop := by
  refine ⟨_, optViol_scope (els.isSome && elif.isSome) s "B10" .ifElseDuplicated "if-condition".toList, ?_⟩
  cases els <;> cases elif <;> rfl

theorem lock_ind : BodyInd
    (fun i => ∀ rs ss, Lk rg R rs ss → (checkIf rg R i rs).viols = [] → Lk rg R (checkIf rg R i rs) (specIf false rg i ss))
    (fun b => ∀ rs ss, Lk rg R rs ss → (checkBodies rg R b rs).viols = [] →
      Lk rg R (checkBodies rg R b rs) (specBodies false rg b ss))
    (fun l => ∀ rc rs ss, Lk rg R rs ss → (checkIfBody rg R l rc rs).viols = [] →
      Lk rg R (checkIfBody rg R l rc rs) (specIfBody false rg l ss))
    (fun l => ∀ rc bc cc rs ss, Lk rg R rs ss → (checkIfLoopBody rg R l rc bc cc rs).viols = [] →
      Lk rg R (checkIfLoopBody rg R l rc bc cc rs) (specIfLoopBody false rg l ss))
    (fun l => ∀ rc bc cc rs ss, Lk rg R rs ss → (checkLoopBody rg R l rc bc cc rs).viols = [] →
      Lk rg R (checkLoopBody rg R l rc bc cc rs) (specLoopBody false rg l ss)) where
  ifS cond body els elif hbody hels helif rs ss h hq := by
    obtain ⟨s0, hsc, heq⟩ := checkIf_mk rg R cond body els elif rs
    rw [heq] at hq ⊢
    have h0 := h.to hsc
    -- the first body; what follows it extends its report
    have l1 := fun q1 : (checkBodies rg R body (checkIfCond rg cond s0.push)).pop.viols = [] =>
      have qc := nil_of_rext (rext_checkBodies rg R body _) q1
      (hbody _ _ (lock_ifCond cond (h0 (nil_of_rext (rext_checkIfCond rg cond s0.push) qc)).push qc) q1).pop
    cases els with
    | some eb => exact (hels eb rfl _ _ (l1 (nil_of_rext (rext_pushpop (rext_checkBodies rg R eb)) hq)).push hq).pop
    | none =>
      cases elif with
      | some ei => exact helif ei rfl _ _ (l1 (nil_of_rext (rext_checkIf rg R ei _) hq)) hq
      | none => exact l1 hq
  ifb _ h := h false
  loopb _ h := h false false false
  ifNil _ _ _ h _ := h
  ifCons st tl hs ht rc rs ss h hq := by
    rw [checkIfBody_cons] at hq ⊢
    rw [specIfBody_cons]
    exact ht _ _ _ (lock_nStmt st.toN _ h (nil_of_rext (rext_checkIfBody rg R tl _ _) hq) hs) hq
  ifLoopNil _ _ _ _ _ h _ := h
  ifLoopCons st tl hs ht rc bc cc rs ss h hq := by
    rw [checkIfLoopBody_cons] at hq ⊢
    rw [specIfLoopBody_cons]
    exact ht _ _ _ _ _ (lock_nStmt st.toN _ h (nil_of_rext (rext_checkIfLoopBody rg R tl _ _ _ _) hq) hs) hq
  loopNil _ _ _ _ _ h _ := h
  loopCons st tl hs ht rc bc cc rs ss h hq := by
    rw [checkLoopBody_cons] at hq ⊢
    rw [specLoopBody_cons]
    exact ht _ _ _ _ _ (lock_nStmt st.toN _ h (nil_of_rext (rext_checkLoopBody rg R tl _ _ _ _) hq) hs) hq

theorem lock_if : ∀ (i : IfStmt) (rs : RS) (ss : SpecSt), Lk rg R rs ss →
    (checkIf rg R i rs).viols = [] → Lk rg R (checkIf rg R i rs) (specIf false rg i ss) :=
  lock_ind.ifStmt

theorem lock_bodies : ∀ (b : IfBodies) (rs : RS) (ss : SpecSt), Lk rg R rs ss →
    (checkBodies rg R b rs).viols = [] → Lk rg R (checkBodies rg R b rs) (specBodies false rg b ss) :=
  lock_ind.bodies

theorem lock_ifBody : ∀ (l : List IfBodyStmt) (rc : Bool) (rs : RS) (ss : SpecSt), Lk rg R rs ss →
    (checkIfBody rg R l rc rs).viols = [] → Lk rg R (checkIfBody rg R l rc rs) (specIfBody false rg l ss) :=
  lock_ind.ifBody

theorem lock_ifLoopBody : ∀ (l : List IfLoopStmt) (rc bc cc : Bool) (rs : RS) (ss : SpecSt), Lk rg R rs ss →
    (checkIfLoopBody rg R l rc bc cc rs).viols = [] → Lk rg R (checkIfLoopBody rg R l rc bc cc rs) (specIfLoopBody false rg l ss) :=
  lock_ind.ifLoopBody

theorem lock_fnRet (e : Expr) (rc : Bool) {rs : RS} {ss : SpecSt} (h : Lk rg R rs ss)
    (hq : (checkFnRet rg R e rc rs).1.viols = []) :
    Lk rg R (checkFnRet rg R e rc rs).1 (specRet false e ss) :=
  ((h.emits ((lockE rg R rs.scope ss e).2 ((fnret_ok e rc rs).2 hq))).emit (.ret _) trivial).to (fnret_ok e rc rs).1 hq

theorem afterRet_scope (rc : Bool) (rs : RS) : (afterRet rc rs).scope = rs.scope :=
  optViol_scope ..

theorem lock_body (l : List BodyStmt) : ∀ (rc : Bool) (rs : RS) (ss : SpecSt), Lk rg R rs ss →
    (checkBody rg R l rc rs).1.viols = [] → Lk rg R (checkBody rg R l rc rs).1 (specBody false rg l ss) := by
  induction l with
  | nil => exact fun _ _ _ h _ => h
  | cons st tl ih =>
    intro rc rs ss h hq
    rw [checkBody_cons] at hq ⊢
    rw [specBody_cons]
    generalize st.split = q at hq ⊢
    -- what follows the head statement extends its report
    cases q with
    | inl n =>
      have q1 := nil_of_rext (rext_checkBody R tl _ _) hq
      have h0 := h.to (afterRet_scope rc rs) (nil_of_rext (rext_checkN_of_codeAfter n ⟨false, false, false⟩ _) q1)
      exact ih _ _ _ (lock_nStmt n _ h0 q1 (lock_ind.sub n)) hq
    | inr e =>
      have q1 := nil_of_rext (rext_checkBody R tl _ _) hq
      have h0 := h.to (afterRet_scope rc rs) (nil_of_rext (rext_checkFnRet R e rc _) q1)
      exact ih _ _ _ (lock_fnRet e rc h0 q1) hq

theorem lock_params (ps : List (Name × ATy)) : ∀ (rs : RS) (ss : SpecSt), Lk rg R rs ss →
    (checkParams ps rs).viols = [] → Lk rg R (checkParams ps rs) (specParams ps ss) := by
  induction ps with
  | nil => exact fun _ _ h _ => h
  | cons p rest ih =>
    intro rs ss h hq
    rw [checkParams_cons] at hq ⊢
    cases hl : rs.scope.lookup p.1 with
    | some x => rw [hl] at hq; exact absurd hq (viol_ne_nil _ _ _ _)
    | none =>
      rw [hl] at hq
      exact ih _ _ ((h.declare p.1 p.2.toTy false).emit (.param _) trivial) hq

theorem checkFn_quiet {rg : RGlobals} {f : FnDecl} (hq : checkFn rg f = []) :
    (checkBody rg f.result.toTy f.body false (checkParams f.params { scope := [[]], viols := [] })).1.viols = [] := by
  unfold checkFn at hq
  dsimp only at hq
  split at hq
  · exact hq
  · exact absurd hq (viol_ne_nil _ _ _ _)

theorem lock_fn (rg : RGlobals) (f : FnDecl) (hq : checkFn rg f = []) :
    ∀ ev ∈ specStmts false rg f, EvOK rg f.result.toTy ev :=
  have q2 := checkFn_quiet hq
  (lock_body f.body false _ _ (lock_params f.params _ SpecSt.init ⟨rfl, rfl, fun _ h => by cases h⟩
    (nil_of_rext (rext_checkBody _ _ _ _) q2)) q2).evs

end SemVerif
