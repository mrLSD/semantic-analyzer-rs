import SemVerif.Lemmas.ExprSteps
import SemVerif.Lemmas.FoldMap
import SemVerif.Lemmas.Frames
import SemVerif.Spec.Preds
/-!
# Lemmas/T1Expr — verdict simulation (family T1), expression level

Analyzer model and reference rule checker walk the same expression from related scopes: either
both succeed with the same type, the analyzer adding no error and the checker no enforced violation,
or both fail and the first error added names the first enforced violation (kind, and identifier
for the kinds that name one).  After a failure nothing is claimed (both sides only append).
-/
namespace SemVerif

def projV (v : Value) : Ty × Bool := (v.ty, v.mutable)

inductive ValsRel : List (List (Name × Value)) → Scope → Prop
  | nil : ValsRel [] []
  | cons {vals : List (Name × Value)} {fr : List (Name × Ty × Bool)} {rest : List (List (Name × Value))} {sc : Scope} :
      (∀ n, (assocGet n vals).map projV = rlookup n fr) → ValsRel rest sc → ValsRel (vals :: rest) (fr :: sc)

def St.vals (s : St) : List (List (Name × Value)) := s.frames.map (·.values)
def ScopeRel (s : St) (sc : Scope) : Prop := ValsRel s.vals sc

theorem valsRel_lookup {vs : List (List (Name × Value))} {sc : Scope} (h : ValsRel vs sc) (n : Name) :
    (vs.findSome? fun vals => assocGet n vals).map projV = sc.lookup n := by
  induction h with
  | nil => rfl
  | @cons vals fr rest sc' hfr _ ih =>
    show _ = match rlookup n fr with
      | some x => some x
      | none => Scope.lookup n sc'
    rw [List.findSome?_cons, ← hfr n]
    cases assocGet n vals with
    | some v => rfl
    | none => exact ih

theorem scopeRel_lookup {s : St} {sc : Scope} (h : ScopeRel s sc) (n : Name) :
    (s.lookupValue n).map projV = sc.lookup n := by
  have := valsRel_lookup h n
  unfold St.vals at this
  rw [List.findSome?_map] at this
  exact this

structure GlobRel (g : Globals) (rg : RGlobals) : Prop where
  types : ∀ n, g.types n = rlookup n rg.types
  consts : ∀ n, (g.consts n).map (·.ty) = rlookup n rg.consts
  funcs : ∀ n, (g.funcs n).map (fun f => (f.params, f.ty)) = rlookup n rg.funcs

def keyE (e : Err) : String := errKey e.kind e.value
def keyV (v : Viol) : String := errKey v.kind v.name
def firstEnf (vs : List Viol) : Option Viol := (vs.filter (·.enforced)).head?

theorem keyE_mk (k : ErrKind) (n : Name) (l o : Nat) : keyE ⟨k, n, l, o⟩ = errKey k n := rfl

theorem keyE_eq (k : ErrKind) (n : Name) (l o : Nat) (r : String) (e : Bool) :
    keyE ⟨k, n, l, o⟩ = keyV ⟨r, k, n, e⟩ := keyE_mk k n l o

theorem firstEnf_append (a b : List Viol) : firstEnf (a ++ b) = (firstEnf a).or (firstEnf b) := by
  unfold firstEnf; rw [List.filter_append, List.head?_append]

theorem firstEnf_append_none {a b : List Viol} (h : firstEnf a = none) : firstEnf (a ++ b) = firstEnf b := by
  rw [firstEnf_append, h]; rfl

theorem firstEnf_append_some {a b : List Viol} {v : Viol} (h : firstEnf a = some v) : firstEnf (a ++ b) = some v := by
  rw [firstEnf_append, h]; rfl

theorem firstEnf_single_enf (v : Viol) (h : v.enforced = true) : firstEnf [v] = some v := by
  simp [firstEnf, List.filter, h]

theorem firstEnf_single_unenf (v : Viol) (h : v.enforced = false) : firstEnf [v] = none := by
  simp [firstEnf, List.filter, h]

theorem any_enforced (vs : List Viol) : vs.any (·.enforced) = (firstEnf vs).isSome := by
  unfold firstEnf; rw [List.head?_filter, Bool.eq_iff_iff, List.find?_isSome, List.any_eq_true]

def Fail (s s' : St) (vs : List Viol) : Prop :=
  ∃ e rest v, s'.errors = s.errors ++ e :: rest ∧ firstEnf vs = some v ∧ keyE e = keyV v

def SameVals (s s' : St) : Prop := s'.vals = s.vals

theorem Fail.of_addErr (s : St) (k : ErrKind) (n : Name) (l o : Nat) (r : String) :
    Fail s (s.addErr k n l o) [⟨r, k, n, true⟩] :=
  ⟨⟨k, n, l, o⟩, [], _, rfl, firstEnf_single_enf _ rfl, keyE_eq k n l o r true⟩

theorem Fail.enforced {s s' : St} {vs : List Viol} (h : Fail s s' vs) : ∃ v, firstEnf vs = some v := by
  obtain ⟨_, _, v, _, hv, _⟩ := h
  exact ⟨v, hv⟩

theorem Fail.ext {s s1 s2 : St} {vs : List Viol} (h : Fail s s1 vs) (hx : ∃ Δ, s2.errors = s1.errors ++ Δ) :
    Fail s s2 vs := by
  obtain ⟨e, rest, v, he, hv, hk⟩ := h
  obtain ⟨Δ, hΔ⟩ := hx
  exact ⟨e, rest ++ Δ, v, by rw [hΔ, he, List.append_assoc, List.cons_append], hv, hk⟩

theorem Fail.silent {s s1 s2 : St} {vs : List Viol} (h : Fail s s1 vs) (he : s2.errors = s1.errors) : Fail s s2 vs :=
  h.ext (errors_ext_of_eq he)

theorem Fail.addErr {s s1 : St} {vs : List Viol} (h : Fail s s1 vs) (k : ErrKind) (n : Name) (l o : Nat) :
    Fail s (s1.addErr k n l o) vs :=
  h.ext ⟨_, rfl⟩

theorem Fail.ite {s a b : St} {vs : List Viol} {p : Prop} [Decidable p] (ha : Fail s a vs) (hb : Fail s b vs) :
    Fail s (if p then a else b) vs := by
  split <;> assumption

theorem Fail.append {s s1 : St} {vs : List Viol} (h : Fail s s1 vs) (ws : List Viol) : Fail s s1 (vs ++ ws) := by
  obtain ⟨e, rest, v, he, hv, hk⟩ := h
  exact ⟨e, rest, v, he, firstEnf_append_some hv, hk⟩

theorem Fail.prepend {s s1 s2 : St} {vs ws : List Viol} (hv : firstEnf vs = none) (he : s1.errors = s.errors)
    (h : Fail s1 s2 ws) : Fail s s2 (vs ++ ws) := by
  obtain ⟨e, rest, v, he', hv', hk⟩ := h
  exact ⟨e, rest, v, by rw [he', he], by rw [firstEnf_append_none hv]; exact hv', hk⟩

theorem vals_mapFrames (f : Block → Block) (hf : ∀ b, (f b).values = b.values) (s : St) :
    (s.mapFrames f).vals = s.vals := by
  unfold St.vals; rw [frames_mapFrames, List.map_map]
  exact List.map_congr_left fun b _ => hf b

theorem vals_push (i : Instr) (s : St) : (s.push i).vals = s.vals := by
  unfold St.push
  apply vals_mapFrames
  intro b
  rfl

theorem vals_incReg (s : St) : s.incReg.vals = s.vals := by
  unfold St.incReg
  apply vals_mapFrames
  intro b
  rfl

theorem vals_incEmit (i : Instr) (s : St) : (s.incReg.push i).vals = s.vals := (vals_push i _).trans (vals_incReg s)

theorem vals_addErr (k : ErrKind) (v : Name) (l o : Nat) (s : St) : (s.addErr k v l o).vals = s.vals := rfl

theorem scopeRel_of_sameVals {s s' : St} {sc : Scope} (h : ScopeRel s sc) (hv : SameVals s s') : ScopeRel s' sc := by
  unfold ScopeRel; rw [hv]; exact h

def ExprSim (sc : Scope) (m : EvalM) (c : ERes) : Prop :=
  ∀ s, ScopeRel s sc →
    match c.2 with
    | some ty => firstEnf c.1 = none ∧ ∃ r, (m s).1 = some r ∧ r.ty = ty ∧ (m s).2.errors = s.errors ∧ SameVals s (m s).2
    | none => Fail s (m s).2 c.1

/-- `ExprSim` at one state (`exprSim_iff`) as an inductive, so that a proof can `cases` on how the two
sides ended together -/
inductive ResSim (s : St) : Option ExprResult × St → ERes → Prop
  | ok {r : ExprResult} {s' : St} {vs : List Viol} (hv : firstEnf vs = none) (he : s'.errors = s.errors)
      (hs : s'.vals = s.vals) : ResSim s (some r, s') (vs, some r.ty)
  | fail {a : Option ExprResult} {s' : St} {vs : List Viol} (h : Fail s s' vs) : ResSim s (a, s') (vs, none)

theorem exprSim_iff {sc : Scope} {m : EvalM} {c : ERes} :
    ExprSim sc m c ↔ ∀ s, ScopeRel s sc → ResSim s (m s) c := by
  refine forall_congr' fun s => imp_congr_right fun _ => ?_
  generalize m s = p
  obtain ⟨a, s'⟩ := p
  obtain ⟨vs, to⟩ := c
  cases to with
  | none => exact ⟨.fail, fun h => by cases h; assumption⟩
  | some t =>
    constructor
    · rintro ⟨hv, r, rfl, rfl, he, hs⟩; exact .ok hv he hs
    · intro h; cases h with | ok hv he hs => exact ⟨hv, _, rfl, rfl, he, hs⟩

theorem ExprSim.run {sc : Scope} {m : EvalM} {c : ERes} (h : ExprSim sc m c) (s : St) (hs : ScopeRel s sc) :
    firstEnf c.1 = none ∧ (m s).2.errors = s.errors ∧ SameVals s (m s).2 ∨ Fail s (m s).2 c.1 := by
  have h := h s hs
  cases hc : c.2 <;> rw [hc] at h
  · exact Or.inr h
  · obtain ⟨hv, r, _, _, he, hvals⟩ := h
    exact Or.inl ⟨hv, he, hvals⟩

theorem ResSim.toFail {s : St} {p : Option ExprResult × St} {vs : List Viol} (h : ResSim s p (vs, none)) :
    Fail s p.2 vs := by
  cases h; assumption

theorem sim_evalLit (sc : Scope) (v : PrimVal) : ExprSim sc (evalLit v) (eOk (.prim v.ty)) :=
  exprSim_iff.2 fun _ _ => .ok rfl rfl rfl

theorem sim_evalExt (sc : Scope) (tag : Nat) (ty : PrimTy) : ExprSim sc (evalExt tag ty) (eOk (.prim ty)) :=
  exprSim_iff.2 fun s _ => .ok rfl rfl (vals_incEmit _ s)

theorem sim_evalVar {g : Globals} {rg : RGlobals} (hg : GlobRel g rg) (sc : Scope) (x : Name) :
    ExprSim sc (evalVar g x) (checkVar rg sc x) := by
  refine exprSim_iff.2 fun s hs => ?_
  unfold evalVar checkVar
  rw [← scopeRel_lookup hs x, ← hg.consts x]
  cases s.lookupValue x with
  | some val => exact .ok rfl rfl (vals_incEmit _ s)
  | none =>
    cases g.consts x with
    | some c => exact .ok rfl rfl (vals_incEmit _ s)
    | none => exact .fail (Fail.of_addErr ..)

theorem sim_evalField {g : Globals} {rg : RGlobals} (hg : GlobRel g rg) (sc : Scope) (x a : Name) :
    ExprSim sc (evalField g x a) (checkField rg sc x a) := by
  refine exprSim_iff.2 fun s hs => ?_
  unfold evalField checkField
  rw [← scopeRel_lookup hs x]
  cases s.lookupValue x with
  | none => exact .fail (Fail.of_addErr ..)
  | some val =>
    dsimp only [Option.map_some, projV]
    cases val.ty with
    | prim p => exact .fail (Fail.of_addErr ..)
    | array t n => exact .fail (Fail.of_addErr ..)
    | struct sn attrs =>
      dsimp only
      rw [← hg.types sn]
      cases g.types sn with
      | none => exact .fail (Fail.of_addErr ..)
      | some regTy =>
        dsimp only
        by_cases hne : Ty.struct sn attrs ≠ regTy
        · rw [if_pos hne, if_pos hne]; exact .fail (Fail.of_addErr ..)
        · rw [if_neg hne, if_neg hne]
          cases attrs.lookup a with
          | none => exact .fail (Fail.of_addErr ..)
          | some p => exact .ok rfl rfl ((vals_incReg _).trans (vals_incEmit _ s))

theorem sim_pair {sc : Scope} {l r : EvalM} {cl cr : ERes} (o : Op) (hl : ExprSim sc l cl) (hr : ExprSim sc r cr)
    (mr : EM r) : ExprSim sc (evalPair l o r) (checkPair cl cr) := by
  refine exprSim_iff.2 fun s hs => ?_
  have h1 := exprSim_iff.1 hl s hs
  unfold evalPair checkPair
  generalize l s = p1 at h1 ⊢
  cases h1 with
  | @fail a s1 vl hf =>
    -- the left operand failed: whatever happens next only appends errors
    refine .fail ?_
    cases a with
    | none => exact hf
    | some lv =>
      dsimp only
      have hf2 := hf.ext (mr.errors_ext s1)
      generalize r s1 = p2 at hf2 ⊢
      obtain ⟨b, s2⟩ := p2
      cases b with
      | none => exact hf2
      | some rv =>
        dsimp only
        rw [apply_ite Prod.snd]
        exact .ite (hf2.addErr ..) (hf2.silent rfl)
  | @ok lv s1 vl hvl hle hlv =>
    dsimp only
    have h2 := exprSim_iff.1 hr s1 (scopeRel_of_sameVals hs hlv)
    generalize r s1 = p2 at h2 ⊢
    cases h2 with
    | @fail b s2 vr hf =>
      refine .fail (Fail.prepend hvl hle ?_)
      cases b with
      | none => exact hf
      | some rv =>
        dsimp only
        rw [apply_ite Prod.snd]
        exact .ite (hf.addErr ..) (hf.silent rfl)
    | @ok rv s2 vr hvr hre hrv =>
      dsimp only
      by_cases hne : lv.ty ≠ rv.ty
      · rw [if_pos hne, if_pos hne, List.append_assoc]
        exact .fail (Fail.prepend hvl hle (Fail.prepend hvr hre (Fail.of_addErr ..)))
      · rw [if_neg hne, if_neg hne]
        exact .ok (by rw [firstEnf_append_none hvl]; exact hvr) (hre.trans hle)
          ((vals_incEmit _ s2).trans (hrv.trans hlv))

theorem sim_tree {sc : Scope} {γ : Type} (fm : γ → EvalM) (fc : γ → ERes) (t : W γ)
    (h : ∀ a ∈ t.atoms, ExprSim sc (fm a) (fc a) ∧ EM (fm a)) :
    ExprSim sc (runW (t.map fm)) (checkTree (t.map fc)) ∧ EM (runW (t.map fm)) := by
  induction t with
  | atom a => exact h a (List.mem_singleton_self a)
  | pair l o r ihl ihr =>
    have hl := ihl fun a ha => h a (List.mem_append_left _ ha)
    have hr := ihr fun a ha => h a (List.mem_append_right _ ha)
    exact ⟨sim_pair o hl.1 hr.1 hr.2, em_evalPair _ _ _ hl.2 hr.2⟩

theorem evalArgs_cons_ext (m : EvalM) (ms : List EvalM)
    (ih : ∀ (tys : List Ty) (s : St), ∃ Δ, (evalArgs ms tys s).2.errors = s.errors ++ Δ) (tys : List Ty) (s : St) :
    ∃ Δ, (evalArgs (m :: ms) tys s).2.errors = (m s).2.errors ++ Δ := by
  unfold evalArgs
  generalize m s = p
  obtain ⟨a, s1⟩ := p
  cases a with
  | none => exact errors_ext_of_eq rfl
  | some r =>
    cases tys with
    | nil => exact errors_ext_of_eq (setPanic_errors _ s1)
    | cons t ts =>
      refine errors_ext_ite Prod.snd (errors_ext_trans ⟨_, rfl⟩ (ih ts (s1.addErr .functionParameterTypeWrong r.ty.show 1 0))) ?_
      have h2 := ih ts s1
      generalize evalArgs ms ts s1 = q at h2 ⊢
      obtain ⟨b, s2⟩ := q
      cases b <;> exact h2

theorem evalArgs_errors_ext : ∀ (ms : List EvalM), (∀ m ∈ ms, EM m) → ∀ (tys : List Ty) (s : St),
    ∃ Δ, (evalArgs ms tys s).2.errors = s.errors ++ Δ
  | [], _, _, _ => errors_ext_of_eq rfl
  | m :: ms, h, tys, s =>
    errors_ext_trans ((h m List.mem_cons_self).errors_ext s)
      (evalArgs_cons_ext m ms (evalArgs_errors_ext ms fun m' hm' => h m' (List.mem_cons_of_mem _ hm')) tys s)

theorem checkArgs_cons_some (va : List Viol) (ta : Ty) (as : List ERes) (tp : Ty) (ps : List Ty) :
    checkArgs ((va, some ta) :: as) (tp :: ps) =
      if ta ≠ tp then va ++ [⟨"B5-type", .functionParameterTypeWrong, ta.show, true⟩] else va ++ checkArgs as ps := rfl

theorem sim_args {sc : Scope} (l : List (EvalM × ERes)) (h : ∀ x ∈ l, ExprSim sc x.1 x.2 ∧ EM x.1) :
    ∀ (tys : List Ty) (s : St), l.length ≤ tys.length → ScopeRel s sc →
    (firstEnf (checkArgs (l.map (·.2)) tys) = none ∧
      ∃ rs s', evalArgs (l.map (·.1)) tys s = (some rs, s') ∧ s'.errors = s.errors ∧ s'.vals = s.vals) ∨
    Fail s (evalArgs (l.map (·.1)) tys s).2 (checkArgs (l.map (·.2)) tys) := by
  induction l with
  | nil =>
    intro tys s _ _
    refine .inl ⟨?_, [], s, rfl, rfl, rfl⟩
    cases tys with
    | nil => rfl
    | cons t ts => exact firstEnf_single_unenf _ rfl
  | cons x rest ih =>
    intro tys s hlen hs
    obtain ⟨m, va, to⟩ := x
    have h1 : ResSim s (m s) (va, to) := exprSim_iff.1 (h (m, va, to) List.mem_cons_self).1 s hs
    have hrest : ∀ x ∈ rest, ExprSim sc x.1 x.2 ∧ EM x.1 := fun x hx => h x (List.mem_cons_of_mem _ hx)
    have hext := evalArgs_errors_ext (rest.map (·.1)) fun m' hm' => by
      obtain ⟨x, hx, rfl⟩ := List.mem_map.1 hm'; exact (hrest x hx).2
    cases tys with
    | nil => exact absurd hlen (Nat.not_succ_le_zero _)
    | cons t ts =>
      simp only [List.map_cons]
      cases to with
      | none => exact .inr (h1.toFail.ext (evalArgs_cons_ext m _ hext (t :: ts) s))
      | some ta =>
        rw [checkArgs_cons_some]
        unfold evalArgs
        generalize m s = p at h1 ⊢
        cases h1 with
        | @ok r s1 _ hva hre hrv =>
          dsimp only
          by_cases hty : r.ty ≠ t
          · rw [if_pos hty, if_pos hty]
            exact .inr (Fail.prepend hva hre ((Fail.of_addErr ..).ext (hext ts _)))
          · rw [if_neg hty, if_neg hty]
            rcases ih hrest ts s1 (Nat.le_of_succ_le_succ hlen) (scopeRel_of_sameVals hs hrv) with
              ⟨hv2, rs, s2, heq, he2, hvals2⟩ | hf
            · rw [heq]
              exact .inl ⟨by rw [firstEnf_append_none hva]; exact hv2, r :: rs, s2, rfl, he2.trans hre, hvals2.trans hrv⟩
            · refine .inr (Fail.prepend hva hre ?_)
              generalize evalArgs (rest.map (·.1)) ts s1 = q at hf ⊢
              obtain ⟨b, s2⟩ := q
              cases b <;> exact hf

theorem sim_functionCall {g : Globals} {rg : RGlobals} (hg : GlobRel g rg) {sc : Scope} (f : Name)
    (l : List (EvalM × ERes)) (h : ∀ x ∈ l, ExprSim sc x.1 x.2 ∧ EM x.1) (s : St) (hs : ScopeRel s sc) :
    match (checkCall rg f (l.map (·.2))).2 with
    | some ty => firstEnf (checkCall rg f (l.map (·.2))).1 = none ∧ (functionCall g f (l.map (·.1)) s).1 = some ty ∧
        (functionCall g f (l.map (·.1)) s).2.errors = s.errors ∧ SameVals s (functionCall g f (l.map (·.1)) s).2
    | none => Fail s (functionCall g f (l.map (·.1)) s).2 (checkCall rg f (l.map (·.2))).1 := by
  -- one copy of each side, in `hres` and `hc`
  generalize hres : functionCall g f (l.map (·.1)) s = res
  generalize hc : checkCall rg f (l.map (·.2)) = c
  unfold functionCall at hres
  unfold checkCall at hc
  rw [← hg.funcs f] at hc
  generalize g.funcs f = o at hres hc
  cases o with
  | none => subst hres hc; exact Fail.of_addErr ..
  | some fd =>
    dsimp only [Option.map_some] at hres hc
    rw [List.length_map] at hres hc
    by_cases hlen : fd.params.length < l.length
    · rw [if_pos hlen] at hres hc; subst hres hc; exact Fail.of_addErr ..
    · rw [if_neg hlen] at hres hc
      rw [any_enforced] at hc
      rcases sim_args l h fd.params s (Nat.le_of_not_lt hlen) hs with ⟨hv, rs, s2, heq, he, hvals⟩ | hf
      · rw [heq] at hres; rw [hv] at hc; subst hres hc
        exact ⟨hv, rfl, he, (vals_incEmit _ s2).trans hvals⟩
      · obtain ⟨v, hv⟩ := hf.enforced
        rw [hv] at hc; subst hres hc
        generalize evalArgs (l.map (·.1)) fd.params s = q at hf ⊢
        obtain ⟨b, s2⟩ := q
        cases b with
        | none => exact hf
        | some ps => exact hf.silent rfl

theorem sim_evalCall {g : Globals} {rg : RGlobals} (hg : GlobRel g rg) {sc : Scope} (f : Name)
    (l : List (EvalM × ERes)) (h : ∀ x ∈ l, ExprSim sc x.1 x.2 ∧ EM x.1) :
    ExprSim sc (evalCall g f (l.map (·.1))) (checkCall rg f (l.map (·.2))) := by
  refine exprSim_iff.2 fun s hs => ?_
  have h1 := sim_functionCall hg f l h s hs
  unfold evalCall
  generalize checkCall rg f (l.map (·.2)) = c at h1 ⊢
  obtain ⟨vs, to⟩ := c
  generalize functionCall g f (l.map (·.1)) s = p at h1 ⊢
  obtain ⟨a, s1⟩ := p
  cases to with
  | none =>
    refine .fail ?_
    cases a with
    | none => exact h1
    | some ty => exact h1.silent rfl
  | some ty =>
    dsimp only at h1
    obtain ⟨hv, rfl, he, hvals⟩ := h1
    exact .ok hv he ((vals_incReg s1).trans hvals)

def chainTail : Option (Op × Expr) → List (Op × ExprValue)
  | none => []
  | some (o, .mk v rest) => (o, v) :: chainTail rest

/-- induction along the operand chain of an expression (through `Expr`, which makes it structural) -/
theorem chain_induction {P : Option (Op × Expr) → Prop} (nil : P none)
    (cons : ∀ o v rest, P rest → P (some (o, .mk v rest))) : ∀ r, P r
  | none => nil
  | some (o, e) => go e o
where
  go : ∀ (e : Expr) (o : Op), P (some (o, e))
    | .mk v none, o => cons o v none nil
    | .mk v (some (o', e')), o => cons o v _ (go e' o')

theorem restM_eq (g : Globals) : ∀ r, restM g r = (chainTail r).map fun x => (x.1, valM g x.2) :=
  chain_induction (by rw [chainTail]; rfl) fun o v rest ih => by
    show (o, valM g v) :: restM g rest = _
    rw [chainTail, List.map_cons, ih]

theorem checkRest_eq (rg : RGlobals) (sc : Scope) : ∀ r,
    checkRest rg sc r = (chainTail r).map fun x => (x.1, checkVal rg sc x.2) :=
  chain_induction (by rw [chainTail]; rfl) fun o v rest ih => by
    show (o, checkVal rg sc v) :: checkRest rg sc rest = _
    rw [chainTail, List.map_cons, ih]

theorem argsM_eq (g : Globals) : ∀ as, argsM g as = as.map (exprM g)
  | [] => rfl
  | e :: es => congrArg (exprM g e :: ·) (argsM_eq g es)

theorem checkExprs_eq (rg : RGlobals) (sc : Scope) : ∀ as, checkExprs rg sc as = as.map (checkExpr rg sc)
  | [] => rfl
  | e :: es => congrArg (checkExpr rg sc e :: ·) (checkExprs_eq rg sc es)

mutual
theorem sim_exprM {g : Globals} {rg : RGlobals} (hg : GlobRel g rg) (sc : Scope) :
    ∀ e, ExprSim sc (exprM g e) (checkExpr rg sc e)
  | .mk v rest => by
    show ExprSim sc (runW (foldChain Generated.prio (valM g v) (restM g rest)))
      (checkTree (foldChain Generated.prio (checkVal rg sc v) (checkRest rg sc rest)))
    rw [restM_eq, checkRest_eq, foldChain_map Generated.prio (valM g), foldChain_map Generated.prio (checkVal rg sc)]
    refine (sim_tree (valM g) (checkVal rg sc) _ fun a ha => ?_).1
    rcases foldChain_atoms_subset Generated.prio v (chainTail rest) a ha with h | h
    · rw [h]; exact ⟨sim_valM hg sc v, em_valM g v⟩
    · obtain ⟨⟨o, b⟩, hb, rfl⟩ := List.mem_map.1 h
      exact ⟨sim_chain hg sc rest o b hb, em_valM g b⟩
theorem sim_chain {g : Globals} {rg : RGlobals} (hg : GlobRel g rg) (sc : Scope) :
    ∀ r, ∀ o a, (o, a) ∈ chainTail r → ExprSim sc (valM g a) (checkVal rg sc a)
  | none => fun o a h => by rw [chainTail] at h; cases h
  | some (op, .mk v rest) => fun o a h => by
    rw [chainTail] at h
    rcases List.mem_cons.1 h with h | h
    · rw [(Prod.mk.inj h).2]; exact sim_valM hg sc v
    · exact sim_chain hg sc rest o a h
theorem sim_valM {g : Globals} {rg : RGlobals} (hg : GlobRel g rg) (sc : Scope) :
    ∀ v, ExprSim sc (valM g v) (checkVal rg sc v)
  | .var n => sim_evalVar hg sc n
  | .lit v => sim_evalLit sc v
  | .call f args => by
    show ExprSim sc (evalCall g f (argsM g args)) (checkCall rg f (checkExprs rg sc args))
    rw [argsM_eq, checkExprs_eq]
    have := sim_evalCall hg f (args.map fun e => (exprM g e, checkExpr rg sc e)) fun x hx => by
      obtain ⟨e, he, rfl⟩ := List.mem_map.1 hx
      exact ⟨sim_args' hg sc args e he, em_exprM g e⟩
    rw [List.map_map, List.map_map] at this
    exact this
  | .field v a => sim_evalField hg sc v a
  | .sub e => sim_exprM hg sc e
  | .ext tag ty => sim_evalExt sc tag ty
theorem sim_args' {g : Globals} {rg : RGlobals} (hg : GlobRel g rg) (sc : Scope) :
    ∀ (as : List Expr), ∀ e ∈ as, ExprSim sc (exprM g e) (checkExpr rg sc e)
  | [] => fun _ h => nomatch h
  | a :: as => fun e h => by
    rcases List.mem_cons.1 h with h | h
    · rw [h]; exact sim_exprM hg sc a
    · exact sim_args' hg sc as e h
end

end SemVerif
