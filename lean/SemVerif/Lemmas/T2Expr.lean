import SemVerif.Spec.Denote
import SemVerif.Lemmas.T1Stmt
import SemVerif.Lemmas.ValInv
import SemVerif.Lemmas.Misc
/-!
# Lemmas/T2Expr — the denotation of the emitted stack is the denotation of the source (family T2),
expression level

`St.abs s` is the abstract reading of the root stack of the analysis state (`abstractFold`).
`Trans g s s' evs`: between the two states only the events `evs` (calls, extension evaluations)
were appended to the statement list, no declaration was made, every operand already held (a literal
or a register not above the counter of `s`) still denotes the same tree, value tables and registries
are unchanged.
`DenSim g ss m d`: whenever the evaluator `m` succeeds without reporting an error from a state whose
visible declarations are those of the source scope `ss`, the transition is `Trans` with the events
of `d` and the returned operand denotes the tree of `d`.
`Trans` also carries what rides on the same induction: the reads invariant of C08 (`RdInv`), the typed
scan of C04 (`St.tenv`, `TOK`, `WLe`) and the value tables of C18 (`St.dts`).
-/
namespace SemVerif

theorem AbsSt.bind_out (A : AbsSt) (q : Nat) (t : DTree) : (A.bind q t).out = A.out := rfl

theorem AbsSt.bind_decls (A : AbsSt) (q : Nat) (t : DTree) : (A.bind q t).decls = A.decls := rfl

theorem AbsSt.emit_out (A : AbsSt) (d : DStmt) : (A.emit d).out = A.out ++ [d] := rfl

theorem AbsSt.emit_decls (A : AbsSt) (d : DStmt) : (A.emit d).decls = A.decls := rfl

theorem AbsSt.emit_env (A : AbsSt) (d : DStmt) : (A.emit d).env = A.env := rfl

theorem find?_key_cons {α : Type} (a : Nat) (x : α) (l : List (Nat × α)) (q : Nat) :
    ((a, x) :: l).find? (·.1 == q) = if q = a then some (a, x) else l.find? (·.1 == q) := by
  rw [List.find?_cons]
  by_cases h : q = a
  · subst h; simp only [beq_self_eq_true, if_true]
  · have : (a == q) = false := beq_false_of_ne fun e => h e.symm
    simp only [this, if_neg h]

theorem AbsSt.bind_reg_self (A : AbsSt) (q : Nat) (t : DTree) : (A.bind q t).reg q = t := by
  unfold AbsSt.reg AbsSt.bind
  rw [find?_key_cons, if_pos rfl]

theorem AbsSt.emit_reg (A : AbsSt) (d : DStmt) (x : Nat) : (A.emit d).reg x = A.reg x := rfl

theorem AbsSt.res_prim (A : AbsSt) (ty : Ty) (v : PrimVal) : A.res ⟨ty, .prim v⟩ = .lit v := rfl

theorem AbsSt.res_reg (A : AbsSt) (ty : Ty) (q : Nat) : A.res ⟨ty, .reg q⟩ = A.reg q := rfl

theorem AbsSt.res_congr {A B : AbsSt} (x : ExprResult) (h : ∀ q, x.val = .reg q → B.reg q = A.reg q) : B.res x = A.res x := by
  obtain ⟨ty, v⟩ := x
  cases v with
  | prim p => rfl
  | reg q => exact h q rfl

theorem AbsSt.emit_bound (A : AbsSt) (d : DStmt) (x : Nat) : (A.emit d).bound x = A.bound x := rfl

theorem reg_of_bound {A B : AbsSt} (h : B.env = A.env) (q : Nat) : B.bound q = A.bound q := by
  unfold AbsSt.bound; rw [h]

theorem abstractStep_let (A : AbsSt) (v : Value) (x : ExprResult) :
    abstractStep A (.letBinding v x) =
      ({ A with decls := A.decls ++ [v.innerName] } : AbsSt).emit (.letD A.decls.length v.mutable (A.res x)) := by
  show AbsSt.emit _ (.letD ((A.decls ++ [v.innerName]).length - 1) _ _) = _
  rw [List.length_append]
  rfl

theorem abstractStep_fnArg (A : AbsSt) (v : Value) (p : FuncParam) :
    abstractStep A (.fnArg v p) = ({ A with decls := A.decls ++ [v.innerName] } : AbsSt).emit (.param A.decls.length) := by
  show AbsSt.emit _ (.param ((A.decls ++ [v.innerName]).length - 1)) = _
  rw [List.length_append]
  rfl

def St.abs (s : St) : AbsSt := abstractFold s.root.context

theorem abs_of_ctx {s s' : St} (h : s'.root.context = s.root.context) : s'.abs = s.abs := by
  unfold St.abs; rw [h]

theorem abs_push (i : Instr) (s : St) : (s.push i).abs = abstractStep s.abs i :=
  List.foldl_append ..

theorem abs_incReg (s : St) : s.incReg.abs = s.abs := abs_of_ctx rfl

theorem abs_addErr (k : ErrKind) (v : Name) (l o : Nat) (s : St) : (s.addErr k v l o).abs = s.abs := rfl

def St.tenv (s : St) : TyEnv := s.root.context.foldl tyStepEnv TyEnv.init

theorem tenv_of_ctx {s s' : St} (h : s'.root.context = s.root.context) : s'.tenv = s.tenv := by
  unfold St.tenv; rw [h]

theorem tenv_push (i : Instr) (s : St) : (s.push i).tenv = tyStepEnv s.tenv i :=
  List.foldl_append ..

theorem tenv_incReg (s : St) : s.incReg.tenv = s.tenv := tenv_of_ctx rfl

theorem tenv_addErr (k : ErrKind) (v : Name) (l o : Nat) (s : St) : (s.addErr k v l o).tenv = s.tenv := rfl

def cOkOf (g : Globals) : ConstSem → Bool := fun c => g.consts c.name == some c

def fOkOf (g : Globals) : Func → Bool := fun f => g.funcs f.name == some f

/-- every check of the typed scan passes on the root stack, up to the checks F8 / F9 can fail -/
def TOK (g : Globals) (R : Ty) (s : St) : Prop :=
  ∀ pb ∈ typedGo (cOkOf g) (fOkOf g) R s.root.context TyEnv.init 0,
    ∃ i, s.root.context[pb.1]? = some i ∧ pb.2.known i = true

theorem typedGo_append (c : ConstSem → Bool) (f : Func → Bool) (R : Ty) (i : Instr) : ∀ (l : List Instr) (e : TyEnv) (pos : Nat),
    typedGo c f R (l ++ [i]) e pos =
      typedGo c f R l e pos ++ (tyStepBad c f R (l.foldl tyStepEnv e) i).map (fun b => (pos + l.length, b))
  | [], _, _ => List.append_nil _
  | x :: xs, e, pos => by
    show _ ++ typedGo c f R (xs ++ [i]) (tyStepEnv e x) (pos + 1) = (_ ++ typedGo c f R xs (tyStepEnv e x) (pos + 1)) ++ _
    rw [typedGo_append c f R i xs, List.append_assoc, Nat.add_assoc, Nat.add_comm 1]
    rfl

theorem tok_push {g : Globals} {R : Ty} {s : St} (i : Instr) (h : TOK g R s)
    (hi : ∀ b ∈ tyStepBad (cOkOf g) (fOkOf g) R s.tenv i, b.known i = true) : TOK g R (s.push i) := by
  unfold TOK at h ⊢
  intro pb hpb
  have hctx : (s.push i).root.context = s.root.context ++ [i] := rfl
  rw [hctx, typedGo_append] at hpb
  rw [hctx]
  rcases List.mem_append.mp hpb with hpb | hpb
  · obtain ⟨j, hj, hk⟩ := h pb hpb
    have hlt : pb.1 < s.root.context.length := (List.getElem?_eq_some_iff.mp hj).1
    exact ⟨j, by rw [List.getElem?_append_left hlt]; exact hj, hk⟩
  · obtain ⟨b, hb, rfl⟩ := List.mem_map.mp hpb
    exact ⟨i, by rw [Nat.zero_add]; exact List.getElem?_concat_length, hi b hb⟩

theorem tok_of_ctx {g : Globals} {R : Ty} {s s' : St} (hc : s'.root.context = s.root.context) (h : TOK g R s) : TOK g R s' := by
  unfold TOK at h ⊢; rw [hc]; exact h

/-! Both readings keep an association list keyed by registers, latest first.  An instruction binds the
register it writes and, after a call / field read, the next one (the F7 alias). -/

def Instr.alias : Instr → Bool
  | .exprStructValue .. | .call .. => true
  | _ => false

def Instr.binds (i : Instr) : List Nat :=
  match i.writes, i.alias with
  | none, _ => []
  | some w, true => [w + 1, w]
  | some w, false => [w]

theorem mem_binds {i : Instr} {w : Nat} (hw : i.writes = some w) : w ∈ i.binds := by
  unfold Instr.binds; rw [hw]
  cases i.alias <;> simp

theorem le_of_mem_binds {i : Instr} {q : Nat} (h : q ∈ i.binds) : ∃ w, i.writes = some w ∧ w ≤ q := by
  unfold Instr.binds at h
  cases hw : i.writes with
  | none => rw [hw] at h; cases h
  | some w =>
    rw [hw] at h
    refine ⟨w, rfl, ?_⟩
    cases ha : i.alias with
    | false =>
      rw [ha] at h
      exact Nat.le_of_eq (List.mem_singleton.mp h).symm
    | true =>
      rw [ha] at h
      rcases List.mem_cons.mp h with h | h
      · exact h ▸ Nat.le_succ w
      · exact Nat.le_of_eq (List.mem_singleton.mp h).symm

theorem find?_fresh {α : Type} (t : α) (E : List (Nat × α)) (q : Nat) : ∀ (l : List Nat), q ∉ l →
    (l.map (·, t) ++ E).find? (·.1 == q) = E.find? (·.1 == q)
  | [], _ => rfl
  | a :: l, h => by
    rw [List.map_cons, List.cons_append, find?_key_cons, if_neg fun e => h (by rw [e]; exact List.mem_cons_self)]
    exact find?_fresh t E q l fun hm => h (List.mem_cons_of_mem _ hm)

theorem find?_bound {α : Type} (t : α) (E : List (Nat × α)) (q : Nat) : ∀ (l : List Nat), q ∈ l →
    ((l.map (·, t) ++ E).find? (·.1 == q)).isSome = true
  | a :: l, h => by
    rw [List.map_cons, List.cons_append, find?_key_cons]
    by_cases hq : q = a
    · rw [if_pos hq]; rfl
    · rw [if_neg hq]; exact find?_bound t E q l ((List.mem_cons.mp h).resolve_left hq)

theorem not_mem_binds {i : Instr} {q : Nat} (h : ∀ w, i.writes = some w → q < w) : q ∉ i.binds := fun hq => by
  obtain ⟨w, hw, hle⟩ := le_of_mem_binds hq
  exact Nat.lt_irrefl q (Nat.lt_of_lt_of_le (h w hw) hle)

theorem abstractStep_env (A : AbsSt) (i : Instr) : ∃ t, (abstractStep A i).env = i.binds.map (·, t) ++ A.env := by
  cases i
  case exprValue | exprConst | exprStructValue | exprOp | call | ext | condExpr | logicCond => exact ⟨_, rfl⟩
  all_goals exact ⟨.undef 0, rfl⟩

theorem abstractStep_reg (A : AbsSt) (i : Instr) (q : Nat) (h : ∀ w, i.writes = some w → q < w) :
    (abstractStep A i).reg q = A.reg q := by
  obtain ⟨t, ht⟩ := abstractStep_env A i
  unfold AbsSt.reg
  rw [ht, find?_fresh t A.env q _ (not_mem_binds h)]

theorem abstractStep_decls (A : AbsSt) (i : Instr) (h : i.declares = none) : (abstractStep A i).decls = A.decls := by
  cases i
  case fnArg | letBinding => cases h
  all_goals rfl

theorem bound_step (A : AbsSt) (i : Instr) (q : Nat) (h : A.bound q = true) : (abstractStep A i).bound q = true := by
  obtain ⟨t, ht⟩ := abstractStep_env A i
  unfold AbsSt.bound at h ⊢
  rw [ht, List.find?_append]
  cases (i.binds.map (·, t)).find? (·.1 == q) with
  | some _ => rfl
  | none => exact h

theorem bound_binds (A : AbsSt) (i : Instr) (q : Nat) (h : q ∈ i.binds) : (abstractStep A i).bound q = true := by
  obtain ⟨t, ht⟩ := abstractStep_env A i
  unfold AbsSt.bound
  rw [ht]
  exact find?_bound t A.env q _ h

theorem tyStepEnv_field (e : TyEnv) (v : Value) (idx r : Nat) :
    tyStepEnv e (.exprStructValue v idx r) =
      match fieldTy v idx with
      | some t => { e with regs := (r + 1, t) :: (r, t) :: e.regs, written := (r, t) :: e.written }
      | none => e := rfl

theorem badIf_true (t : TyBad) : badIf true t = [] := rfl

theorem tyStepBad_field (c : ConstSem → Bool) (f : Func → Bool) (R : Ty) (e : TyEnv) (v : Value) (idx r : Nat) {sn : Name}
    {attrs : Attrs} {t : Ty} (hty : v.ty = .struct sn attrs) (hf : fieldTy v idx = some t) :
    tyStepBad c f R e (.exprStructValue v idx r) = badIf (e.declOk v) .fieldDecl ++ badIf (e.wOk r t) .regRetyped := by
  unfold tyStepBad
  dsimp only
  rw [hty]
  dsimp only
  rw [hf]

theorem tyStepEnv_eq (e : TyEnv) (i : Instr) :
    tyStepEnv e i = { e with decls := i.declares.toList ++ e.decls } ∨
    ∃ t w, i.writes = some w ∧
      tyStepEnv e i = { e with regs := i.binds.map (·, t) ++ e.regs, written := (w, t) :: e.written } := by
  cases i
  case exprStructValue v idx r =>
    rw [tyStepEnv_field]
    cases fieldTy v idx with
    | some t => exact Or.inr ⟨t, r, rfl, rfl⟩
    | none => exact Or.inl rfl
  case exprValue | exprConst | exprOp | call | ext | condExpr | logicCond => exact Or.inr ⟨_, _, rfl, rfl⟩
  all_goals exact Or.inl rfl

theorem tenv_step_decls (e : TyEnv) (i : Instr) (h : i.declares = none) : (tyStepEnv e i).decls = e.decls := by
  rcases tyStepEnv_eq e i with h' | ⟨_, _, _, h'⟩
  · rw [h', h]; rfl
  · rw [h']

theorem reg_cons_eq (ds : List Value) (ws : List (Nat × Ty)) (a : Nat) (t : Ty) (rest : List (Nat × Ty)) :
    ({ regs := (a, t) :: rest, decls := ds, written := ws } : TyEnv).reg a = some t := by
  unfold TyEnv.reg; rw [find?_key_cons, if_pos rfl]; rfl

theorem tenv_step_stable (e : TyEnv) (i : Instr) (q : Nat) (h : ∀ w, i.writes = some w → q < w) :
    (tyStepEnv e i).reg q = e.reg q := by
  rcases tyStepEnv_eq e i with h' | ⟨t, _, _, h'⟩
  · rw [h']; rfl
  · unfold TyEnv.reg
    rw [h', find?_fresh t e.regs q _ (not_mem_binds h)]

def WLe (s : St) : Prop := ∀ p ∈ s.tenv.written, p.1 ≤ s.root.reg

theorem written_step (e : TyEnv) (i : Instr) : ∀ p ∈ (tyStepEnv e i).written, p ∈ e.written ∨ i.writes = some p.1 := by
  intro p hp
  rcases tyStepEnv_eq e i with h' | ⟨t, w, hw, h'⟩
  · rw [h'] at hp; exact Or.inl hp
  · rw [h'] at hp
    rcases List.mem_cons.mp hp with rfl | hp
    · exact Or.inr hw
    · exact Or.inl hp

theorem wle_of_ctx {s s' : St} (hc : s'.root.context = s.root.context) (hr : s.root.reg ≤ s'.root.reg) (h : WLe s) : WLe s' := by
  intro p hp
  rw [tenv_of_ctx hc] at hp
  exact Nat.le_trans (h p hp) hr

theorem curReg_push (i : Instr) (s : St) : (s.push i).curReg = s.curReg := by
  unfold St.curReg St.cur St.push St.mapFrames; cases s.inner <;> rfl

theorem curReg_incReg (s : St) : s.incReg.curReg = s.curReg + 1 := by
  unfold St.incReg St.curReg St.cur St.mapFrames; cases s.inner <;> rfl

theorem curReg_addErr (k : ErrKind) (v : Name) (l o : Nat) (s : St) : (s.addErr k v l o).curReg = s.curReg := rfl

def Held (s : St) (x : ExprResult) : Prop :=
  match x.val with
  | .prim v => x.ty = .prim v.ty
  | .reg q => (q ≤ s.curReg ∧ s.abs.bound q = true) ∧ s.tenv.reg q = some x.ty

theorem Held.mono {s s' : St} {x : ExprResult} (h : Held s x) (hm : s.curReg ≤ s'.curReg)
    (hb : ∀ q, s.abs.bound q = true → s'.abs.bound q = true)
    (ht : ∀ q, q ≤ s.curReg → s'.tenv.reg q = s.tenv.reg q) : Held s' x := by
  unfold Held at *
  cases hx : x.val with
  | prim _ => rw [hx] at h; exact h
  | reg q => rw [hx] at h; exact ⟨⟨Nat.le_trans h.1.1 hm, hb q h.1.2⟩, by rw [ht q h.1.1]; exact h.2⟩

theorem Held.operandOk {s : St} {x : ExprResult} (h : Held s x) : operandOk s.tenv x = true := by
  unfold Held at h
  unfold SemVerif.operandOk
  cases hx : x.val with
  | prim v => rw [hx] at h; simp [h]
  | reg q => rw [hx] at h; simp [h.2]

theorem Held.regs {s : St} {x : ExprResult} (h : Held s x) : ∀ q ∈ x.regs, q ≤ s.curReg ∧ s.abs.bound q = true := by
  intro q hq
  unfold ExprResult.regs at hq
  unfold Held at h
  cases hx : x.val with
  | prim _ => rw [hx] at hq; cases hq
  | reg r =>
    rw [hx] at hq h
    cases List.mem_singleton.mp hq
    exact h.1

theorem Held.le {s : St} {ty : Ty} {q : Nat} (h : Held s ⟨ty, .reg q⟩) : q ≤ s.curReg := h.1.1

theorem Held.bnd {s : St} {ty : Ty} {q : Nat} (h : Held s ⟨ty, .reg q⟩) : s.abs.bound q = true := h.1.2

theorem Held.ty {s : St} {ty : Ty} {q : Nat} (h : Held s ⟨ty, .reg q⟩) : s.tenv.reg q = some ty := h.2

/-! `RdInv s` (C08): all live blocks carry the root's counter; every register read by an instruction of the
root stack had a tree in the reading at that point; it is not above the counter, and it is smaller
than every register written by that instruction or a later one. -/

structure RdInv (s : St) : Prop where
  sync : ∀ b ∈ s.inner, b.reg = s.root.reg
  ok : readsBound s.root.context AbsSt.init = true
  lw : ∀ pre i post, s.root.context = pre ++ i :: post → ∀ q ∈ i.reads,
    q ≤ s.root.reg ∧ ∀ w ∈ resultRegs (i :: post), q < w

theorem readsBound_append (l : List Instr) (i : Instr) : ∀ (A : AbsSt),
    readsBound (l ++ [i]) A = (readsBound l A && i.reads.all (l.foldl abstractStep A).bound) := by
  induction l with
  | nil => intro A; exact (Bool.and_true _).trans (Bool.true_and _).symm
  | cons x xs ih =>
    intro A
    show (_ && readsBound (xs ++ [i]) (abstractStep A x)) = ((_ && readsBound xs (abstractStep A x)) && _)
    rw [ih, Bool.and_assoc]
    rfl

theorem curReg_of_sync {s : St} (h : ∀ b ∈ s.inner, b.reg = s.root.reg) : s.curReg = s.root.reg := by
  unfold St.curReg St.cur
  cases hi : s.inner with
  | nil => rfl
  | cons b rest => exact h b (hi ▸ List.mem_cons_self)

theorem rd_push {s : St} (h : RdInv s) (i : Instr) (hrd : ∀ q ∈ i.reads, q ≤ s.curReg ∧ s.abs.bound q = true)
    (hw : ∀ w, i.writes = some w → s.curReg ≤ w ∧ ∀ q ∈ i.reads, q < w)
    (hold : ∀ w, i.writes = some w → ∀ pre j post, s.root.context = pre ++ j :: post → ∀ q ∈ j.reads, q < w) :
    RdInv (s.push i) := by
  have hctx : (s.push i).root.context = s.root.context ++ [i] := rfl
  have hc := curReg_of_sync h.sync
  refine ⟨?_, ?_, ?_⟩
  · intro b hb
    obtain ⟨b', hb', rfl⟩ := List.mem_map.mp hb
    exact h.sync b' hb'
  · rw [hctx, readsBound_append, h.ok, Bool.true_and, List.all_eq_true]
    exact fun q hq => (hrd q hq).2
  · intro pre j post hdec q hq
    rw [hctx] at hdec
    show q ≤ s.root.reg ∧ _
    rcases List.eq_nil_or_concat post with rfl | ⟨post', last, rfl⟩
    · -- j is the pushed instruction
      obtain ⟨rfl, hj⟩ := List.append_inj' hdec rfl
      cases hj
      refine ⟨hc ▸ (hrd q hq).1, fun w hw' => ?_⟩
      rw [← List.nil_append [i], resultRegs_append] at hw'
      exact (hw w (Option.mem_toList.mp hw')).2 q hq
    · -- j is an older instruction
      rw [List.concat_eq_append] at hdec ⊢
      rw [← List.cons_append, ← List.append_assoc] at hdec
      obtain ⟨hd, hl⟩ := List.append_inj' hdec rfl
      cases hl
      obtain ⟨h1, h2⟩ := h.lw pre j post' hd q hq
      refine ⟨h1, fun w hw' => ?_⟩
      rw [← List.cons_append, resultRegs_append] at hw'
      rcases List.mem_append.mp hw' with hw' | hw'
      · exact h2 w hw'
      · exact hold w (Option.mem_toList.mp hw') pre j post' hd q hq

theorem root_reg_incReg {s : St} (hr : RdInv s) : s.incReg.root.reg = s.root.reg + 1 := by
  show s.cur.reg + 1 = _
  have : s.cur.reg = s.root.reg := curReg_of_sync hr.sync
  rw [this]

theorem rd_incReg {s : St} (h : RdInv s) : RdInv s.incReg := by
  refine ⟨?_, h.ok, ?_⟩
  · intro b hb
    obtain ⟨b', _, rfl⟩ := List.mem_map.mp hb
    rfl
  · intro pre j post hdec q hq
    obtain ⟨h1, h2⟩ := h.lw pre j post hdec q hq
    rw [root_reg_incReg h]
    exact ⟨Nat.le_succ_of_le h1, h2⟩

theorem rd_same {s s' : St} (h : RdInv s) (hi : ∀ b ∈ s'.inner, b.reg = s'.root.reg)
    (hc : s'.root.context = s.root.context) (hr : s'.root.reg = s.root.reg) : RdInv s' :=
  ⟨hi, by rw [hc]; exact h.ok, by rw [hc, hr]; exact h.lw⟩

theorem rd_incPush {s : St} (h : RdInv s) (i : Instr) (hrd : ∀ q ∈ i.reads, q ≤ s.curReg ∧ s.abs.bound q = true)
    (hw : ∀ w, i.writes = some w → w = s.incReg.curReg) : RdInv (s.incReg.push i) := by
  have hc := curReg_incReg s
  apply rd_push (rd_incReg h) i
  · intro q hq
    rw [hc, abs_incReg]
    exact ⟨Nat.le_succ_of_le (hrd q hq).1, (hrd q hq).2⟩
  · intro w hw'
    rw [hw w hw', hc]
    exact ⟨Nat.le_refl _, fun q hq => Nat.lt_succ_of_le (hrd q hq).1⟩
  · intro w hw' pre j post hdec q hq
    rw [hw w hw', hc, curReg_of_sync h.sync]
    exact Nat.lt_succ_of_le (h.lw pre j post hdec q hq).1

theorem innerUsed_mapFrames (f : Block → Block) (hf : ∀ b, (f b).innerNames = b.innerNames) (s : St) (n : Name) :
    (s.mapFrames f).innerUsed n = s.innerUsed n := by
  unfold St.innerUsed
  rw [frames_mapFrames, List.any_map]
  exact congrArg (s.frames.any ·) (funext fun b => congrArg (·.contains n) (hf b))

theorem innerUsed_push (i : Instr) (s : St) (n : Name) : (s.push i).innerUsed n = s.innerUsed n := by
  unfold St.push; apply innerUsed_mapFrames; intro b; rfl

theorem innerUsed_incReg (s : St) (n : Name) : s.incReg.innerUsed n = s.innerUsed n := by
  unfold St.incReg; apply innerUsed_mapFrames; intro b; rfl

theorem wOk_fresh {s : St} (hwl : WLe s) (hr : RdInv s) (t : Ty) : s.tenv.wOk s.incReg.curReg t = true := by
  unfold TyEnv.wOk
  rw [List.all_eq_true]
  intro p hp
  have h1 := hwl p hp
  have hne : p.1 ≠ s.incReg.curReg := fun e => by
    rw [e, curReg_incReg, curReg_of_sync hr.sync] at h1
    exact Nat.not_succ_le_self _ h1
  rw [bne_iff_ne.mpr hne]
  rfl

structure Trans (g : Globals) (s s' : St) (evs : List DStmt) : Prop where
  out : s'.abs.out = s.abs.out ++ evs
  decls : s'.abs.decls = s.abs.decls
  stable : ∀ x, Held s x → s'.abs.res x = s.abs.res x
  mono : s.curReg ≤ s'.curReg
  vals : s'.vals = s.vals
  inner : ∀ n, s'.innerUsed n = s.innerUsed n
  rootNames : s'.root.innerNames = s.root.innerNames
  bnd : ∀ q, s.abs.bound q = true → s'.abs.bound q = true
  rd : RdInv s → RdInv s'
  tstable : ∀ q, q ≤ s.curReg → s'.tenv.reg q = s.tenv.reg q
  tdecls : s'.tenv.decls = s.tenv.decls
  tok : ∀ R, RdInv s → WLe s → TOK g R s → TOK g R s'
  wle : RdInv s → WLe s → WLe s'
  /-- nothing is declared below statement level (C18, value tables) -/
  dts : s'.dts = s.dts

theorem Trans.refl {g : Globals} (s : St) : Trans g s s [] :=
  ⟨(List.append_nil _).symm, rfl, fun _ _ => rfl, Nat.le_refl _, rfl, fun _ => rfl, rfl, fun _ h => h, fun h => h,
   fun _ _ => rfl, rfl, fun _ _ _ h => h, fun _ h => h, rfl⟩

theorem Trans.trans {g : Globals} {a b c : St} {e1 e2 : List DStmt} (h1 : Trans g a b e1) (h2 : Trans g b c e2) : Trans g a c (e1 ++ e2) :=
  ⟨by rw [h2.out, h1.out, List.append_assoc], by rw [h2.decls, h1.decls],
   fun x hx => by rw [h2.stable x (hx.mono h1.mono h1.bnd h1.tstable), h1.stable x hx],
   Nat.le_trans h1.mono h2.mono, by rw [h2.vals, h1.vals], fun n => by rw [h2.inner, h1.inner],
   by rw [h2.rootNames, h1.rootNames], fun q h => h2.bnd q (h1.bnd q h), fun h => h2.rd (h1.rd h),
   fun q hq => by rw [h2.tstable q (Nat.le_trans hq h1.mono), h1.tstable q hq],
   by rw [h2.tdecls, h1.tdecls], fun R hr hw h => h2.tok R (h1.rd hr) (h1.wle hr hw) (h1.tok R hr hw h),
   fun hr hw => h2.wle (h1.rd hr) (h1.wle hr hw), by rw [h2.dts, h1.dts]⟩

theorem Trans.then {g : Globals} {a b c : St} {evs : List DStmt} (h1 : Trans g a b evs) (h2 : Trans g b c []) : Trans g a c evs :=
  List.append_nil evs ▸ h1.trans h2

theorem Held.of_trans {g : Globals} {s s' : St} {evs : List DStmt} {x : ExprResult} (h : Held s x) (t : Trans g s s' evs) : Held s' x :=
  h.mono t.mono t.bnd t.tstable

theorem trans_addErr {g : Globals} (k : ErrKind) (v : Name) (l o : Nat) (s : St) : Trans g s (s.addErr k v l o) [] :=
  ⟨(List.append_nil _).symm, rfl, fun _ _ => rfl, Nat.le_refl _, rfl, fun _ => rfl, rfl, fun _ h => h,
   fun h => ⟨h.sync, h.ok, h.lw⟩, fun _ _ => rfl, rfl, fun _ _ _ h => h, fun _ h => h, rfl⟩

theorem trans_incReg {g : Globals} (s : St) : Trans g s s.incReg [] :=
  ⟨(List.append_nil _).symm, rfl, fun _ _ => rfl, by rw [curReg_incReg]; exact Nat.le_succ _,
   vals_incReg s, innerUsed_incReg s, rfl, fun _ h => h, rd_incReg,
   fun _ _ => rfl, rfl, fun _ _ _ h => tok_of_ctx rfl h,
   fun hr hw => wle_of_ctx (s := s) rfl (by rw [root_reg_incReg hr]; exact Nat.le_succ _) hw, dts_incReg s⟩

theorem declares_of_writes {i : Instr} {w : Nat} (h : i.writes = some w) : i.declares = none := by
  cases i
  case fnArg | letBinding => cases h
  all_goals rfl

/-- `hty`: the instruction passes the typed scan given that the new register was never written, which
`wOk_fresh` supplies from `WLe` -/
theorem trans_incPush {g : Globals} {i : Instr} {s : St} {evs : List DStmt}
    (hw : i.writes = some s.incReg.curReg)
    (hout : (abstractStep s.abs i).out = s.abs.out ++ evs)
    (hrd : ∀ q ∈ i.reads, q ≤ s.curReg ∧ s.abs.bound q = true)
    (hty : ∀ R, (∀ t, s.tenv.wOk s.incReg.curReg t = true) →
      ∀ b ∈ tyStepBad (cOkOf g) (fOkOf g) R s.tenv i, b.known i = true) :
    Trans g s (s.incReg.push i) evs :=
  have hlt : ∀ q, q ≤ s.curReg → ∀ w, i.writes = some w → q < w := fun q hq w hw' => by
    rw [hw, curReg_incReg] at hw'
    cases hw'
    exact Nat.lt_succ_of_le hq
  have hnd := declares_of_writes hw
  ⟨by rw [abs_push]; exact hout, by rw [abs_push]; exact abstractStep_decls _ _ hnd,
   fun x hx => by
     rw [abs_push]
     refine AbsSt.res_congr x fun q hq => abstractStep_reg _ _ q (hlt q ?_)
     unfold Held at hx; rw [hq] at hx
     exact hx.1.1,
   by rw [curReg_push, curReg_incReg]; exact Nat.le_succ _, by rw [vals_push, vals_incReg],
   fun n => by rw [innerUsed_push, innerUsed_incReg], rfl,
   fun q h => by rw [abs_push]; exact bound_step _ _ _ h,
   fun h => rd_incPush h i hrd fun w hw' => Option.some.inj (hw'.symm.trans hw),
   fun q hq => by rw [tenv_push]; exact tenv_step_stable _ _ q (hlt q hq),
   by rw [tenv_push]; exact tenv_step_decls _ _ hnd,
   fun R hr hwl h => tok_push i (tok_of_ctx rfl h) (hty R (wOk_fresh hwl hr)),
   fun hr hwl => by
     intro p hp
     have hroot : (s.incReg.push i).root.reg = s.root.reg + 1 := root_reg_incReg hr
     rw [hroot]
     rw [tenv_push] at hp
     rcases written_step _ _ p hp with hp | hp
     · exact Nat.le_succ_of_le (hwl p hp)
     · rw [Option.some.inj (hp.symm.trans hw), curReg_incReg, curReg_of_sync hr.sync]; exact Nat.le_refl _,
   by rw [dts_push_plain _ _ hnd, dts_incReg]⟩

def pjD (decls : List Name) (v : Value) : Option Nat := decls.findIdx? (· == v.innerName)

inductive DVals (decls : List Name) : List (List (Name × Value)) → List (List (Name × Nat)) → Prop
  | nil : DVals decls [] []
  | cons {vals : List (Name × Value)} {fr : List (Name × Nat)} {rest : List (List (Name × Value))}
      {ds : List (List (Name × Nat))} :
      (∀ n, (assocGet n vals).map (pjD decls) = (rlookup n fr).map some) → DVals decls rest ds →
      DVals decls (vals :: rest) (fr :: ds)

theorem dvals_lookup {decls : List Name} {vs : List (List (Name × Value))} {ds : List (List (Name × Nat))}
    (h : DVals decls vs ds) (n : Name) :
    (vs.findSome? fun vals => assocGet n vals).map (pjD decls) = (dlookup n ds).map some := by
  induction h with
  | nil => rfl
  | @cons vals fr rest ds' hfr _ ih =>
    rw [List.findSome?_cons]
    show _ = (match rlookup n fr with | some d => some d | none => dlookup n ds').map some
    have := hfr n
    cases hg : assocGet n vals with
    | some v =>
      rw [hg] at this
      cases hr : rlookup n fr with
      | none => rw [hr] at this; cases this
      | some d => rw [hr] at this; exact this
    | none =>
      rw [hg] at this
      cases hr : rlookup n fr with
      | none => exact ih
      | some d => rw [hr] at this; cases this

structure DScope (s : St) (ss : SpecSt) : Prop where
  sc : ScopeRel s ss.tscope
  dv : DVals s.abs.decls s.vals ss.dscope
  /-- every visible value record is the record of the latest declaration of its internal name -/
  dk : ∀ fr ∈ s.vals, ∀ n v, assocGet n fr = some v → s.tenv.declOk v = true
  dn : ∀ d ∈ s.tenv.decls, d.innerName ∈ s.root.innerNames

theorem dscope_declOk {s : St} {ss : SpecSt} (h : DScope s ss) {n : Name} {v : Value} (hv : s.lookupValue n = some v) :
    s.tenv.declOk v = true := by
  unfold St.lookupValue at hv
  obtain ⟨b, hb, hbv⟩ := List.exists_of_findSome?_eq_some hv
  exact h.dk b.values (by unfold St.vals; exact List.mem_map.mpr ⟨b, hb, rfl⟩) n v hbv

theorem dscope_lookup {s : St} {ss : SpecSt} (h : DScope s ss) (n : Name) :
    (s.lookupValue n).map (pjD s.abs.decls) = (dlookup n ss.dscope).map some := by
  have := dvals_lookup h.dv n
  unfold St.vals at this
  rw [List.findSome?_map] at this
  exact this

theorem DScope.of_trans {g : Globals} {s s' : St} {ss : SpecSt} {evs : List DStmt} (h : DScope s ss) (t : Trans g s s' evs) : DScope s' ss :=
  ⟨by unfold ScopeRel; rw [t.vals]; exact h.sc, by rw [t.decls, t.vals]; exact h.dv,
   by rw [t.vals]; intro fr hfr n v hv; unfold TyEnv.declOk; rw [t.tdecls]; exact h.dk fr hfr n v hv,
   by rw [t.tdecls, t.rootNames]; exact h.dn⟩

theorem DScope.lookup_some {s : St} {ss : SpecSt} (h : DScope s ss) {n : Name} {v : Value} (hv : s.lookupValue n = some v) :
    dlookup n ss.dscope = some (s.abs.declIdx v.innerName) := by
  have hl := dscope_lookup h n
  rw [hv] at hl
  cases hd : dlookup n ss.dscope with
  | none => rw [hd] at hl; cases hl
  | some d =>
    rw [hd] at hl
    have hp : pjD s.abs.decls v = some d := Option.some.inj hl
    unfold pjD at hp
    unfold AbsSt.declIdx
    rw [hp]
    rfl

theorem DScope.lookup_none {s : St} {ss : SpecSt} (h : DScope s ss) {n : Name} (hv : s.lookupValue n = none) :
    dlookup n ss.dscope = none := by
  have hl := dscope_lookup h n
  rw [hv] at hl
  cases hd : dlookup n ss.dscope with
  | none => rfl
  | some d => rw [hd] at hl; cases hl

def ResD (s : St) (r : ExprResult) (t : DTree) : Prop := s.abs.res r = t ∧ Held s r

def DenSim (g : Globals) (ss : SpecSt) (m : EvalM) (d : Den) : Prop :=
  ∀ s r s', DScope s ss → m s = (some r, s') → s'.errors = s.errors → Trans g s s' d.1 ∧ ResD s' r d.2

theorem den_incPush {g : Globals} {i : Instr} {s : St} {evs : List DStmt} {t : DTree} {ty : Ty}
    (hw : i.writes = some s.incReg.curReg)
    (hout : (abstractStep s.abs i).out = s.abs.out ++ evs)
    (hrd : ∀ q ∈ i.reads, q ≤ s.curReg ∧ s.abs.bound q = true)
    (hty : ∀ R, (∀ t, s.tenv.wOk s.incReg.curReg t = true) →
      ∀ b ∈ tyStepBad (cOkOf g) (fOkOf g) R s.tenv i, b.known i = true)
    (ht : (abstractStep s.abs i).reg s.incReg.curReg = t)
    (hy : (tyStepEnv s.tenv i).reg s.incReg.curReg = some ty) :
    Trans g s (s.incReg.push i) evs ∧ ResD (s.incReg.push i) ⟨ty, .reg s.incReg.curReg⟩ t :=
  ⟨trans_incPush hw hout hrd hty, by rw [← ht, abs_push]; rfl,
   ⟨by rw [curReg_push]; exact Nat.le_refl _, by rw [abs_push]; exact bound_binds _ _ _ (mem_binds hw)⟩,
   by rw [tenv_push]; exact hy⟩

/-- after a call / field read the counter is bumped once more and the operand is the alias register -/
theorem den_incPush_alias {g : Globals} {i : Instr} {s : St} {evs : List DStmt} {t : DTree} {ty : Ty}
    (hw : i.writes = some s.incReg.curReg) (ha : i.alias = true)
    (hout : (abstractStep s.abs i).out = s.abs.out ++ evs)
    (hrd : ∀ q ∈ i.reads, q ≤ s.curReg ∧ s.abs.bound q = true)
    (hty : ∀ R, (∀ t, s.tenv.wOk s.incReg.curReg t = true) →
      ∀ b ∈ tyStepBad (cOkOf g) (fOkOf g) R s.tenv i, b.known i = true)
    (ht : (abstractStep s.abs i).reg (s.incReg.curReg + 1) = t)
    (hy : (tyStepEnv s.tenv i).reg (s.incReg.curReg + 1) = some ty) :
    Trans g s (s.incReg.push i) evs ∧
      ResD (s.incReg.push i).incReg ⟨ty, .reg (s.incReg.push i).incReg.curReg⟩ t := by
  have hc : (s.incReg.push i).incReg.curReg = s.incReg.curReg + 1 := by rw [curReg_incReg, curReg_push]
  rw [hc]
  refine ⟨trans_incPush hw hout hrd hty, by rw [← ht, abs_incReg, abs_push]; rfl,
    ⟨by rw [hc]; exact Nat.le_refl _, ?_⟩, by rw [tenv_incReg, tenv_push]; exact hy⟩
  rw [abs_incReg, abs_push]
  refine bound_binds _ _ _ ?_
  unfold Instr.binds
  rw [hw, ha]
  exact List.mem_cons_self

theorem den_evalLit {g : Globals} (ss : SpecSt) (v : PrimVal) : DenSim g ss (evalLit v) ([], .lit v) := by
  intro s r s' _ hm _
  cases hm
  exact ⟨Trans.refl s, rfl, rfl⟩

theorem den_evalExt {g : Globals} (ss : SpecSt) (tag : Nat) (ty : PrimTy) : DenSim g ss (evalExt tag ty) ([.extS tag], .ext tag) := by
  intro s r s' _ hm _
  cases hm
  refine den_incPush rfl rfl (fun _ hq => nomatch hq) (fun R hwk b hb => ?_) (AbsSt.bind_reg_self ..)
    (reg_cons_eq ..)
  change b ∈ badIf _ _ at hb
  rw [hwk] at hb
  cases hb

def Attrs.idxOK (a : Attrs) : Prop := ∀ n idx t, a.lookup n = some (idx, t) → a.byIndex idx = some t

/-- table entries are stored under their own name; attribute indices of registered struct types
are positions, hence distinct -/
structure GNames (g : Globals) : Prop where
  consts : ∀ n c, g.consts n = some c → c.name = n
  funcs : ∀ n f, g.funcs n = some f → f.name = n
  attrs : ∀ n name as, g.types n = some (.struct name as) → as.idxOK

theorem den_evalVar {g : Globals} (hn : GNames g) (ref : Bool) (ss : SpecSt) (x : Name) :
    DenSim g ss (evalVar g x) (specVal ref ss (.var x)) := by
  intro s r s' hs hm he
  show Trans g s s' [] ∧ ResD s' r (match dlookup x ss.dscope with | some d => .read d | none => .const x)
  unfold evalVar at hm
  dsimp only at hm
  cases hv : s.lookupValue x with
  | some val =>
    rw [hv] at hm
    cases hm
    rw [hs.lookup_some hv]
    refine den_incPush rfl (List.append_nil _).symm (fun _ hq => nomatch hq) (fun R hwk b hb => ?_)
      (AbsSt.bind_reg_self ..) (reg_cons_eq ..)
    change b ∈ badIf _ _ ++ badIf _ _ at hb
    rw [dscope_declOk hs hv, hwk] at hb
    cases hb
  | none =>
    rw [hv] at hm
    rw [hs.lookup_none hv]
    cases hc : g.consts x with
    | none => rw [hc] at hm; cases hm
    | some c =>
      rw [hc] at hm
      cases hm
      have hcn := hn.consts x c hc
      refine den_incPush rfl (List.append_nil _).symm (fun _ hq => nomatch hq) (fun R hwk b hb => ?_)
        ((AbsSt.bind_reg_self ..).trans (by rw [hcn])) (reg_cons_eq ..)
      have hck : cOkOf g c = true := by unfold cOkOf; rw [hcn, hc]; exact beq_self_eq_true _
      change b ∈ badIf _ _ ++ badIf _ _ at hb
      rw [hck, hwk] at hb
      cases hb

theorem fieldIdx_of {s : St} {ss : SpecSt} (hs : DScope s ss) {x a sn : Name} {val : Value} {attrs : Attrs} {idx : Nat} {aty : Ty}
    (hv : s.lookupValue x = some val) (hty : val.ty = .struct sn attrs) (hat : attrs.lookup a = some (idx, aty)) :
    fieldIdx ss x a = idx := by
  unfold fieldIdx
  rw [← scopeRel_lookup hs.sc x, hv, Option.map_some]
  unfold projV
  rw [hty]
  show ((attrs.lookup a).map (·.1)).getD 999999 = idx
  rw [hat]
  rfl

theorem den_evalField {g : Globals} (hn : GNames g) (ref : Bool) (ss : SpecSt) (x a : Name) :
    DenSim g ss (evalField g x a) (specVal ref ss (.field x a)) := by
  intro s r s' hs hm he
  show Trans g s s' [] ∧ ResD s' r (.field ((dlookup x ss.dscope).getD 999999) (fieldIdx ss x a))
  unfold evalField at hm
  cases hv : s.lookupValue x with
  | none => rw [hv] at hm; cases hm
  | some val =>
    rw [hv] at hm
    dsimp only at hm
    cases hty : val.ty with
    | prim _ => rw [hty] at hm; cases hm
    | array _ _ => rw [hty] at hm; cases hm
    | struct sn attrs =>
      rw [hty] at hm
      dsimp only at hm
      cases hg : g.types sn with
      | none => rw [hg] at hm; cases hm
      | some regTy =>
        rw [hg] at hm
        dsimp only at hm
        by_cases hne : Ty.struct sn attrs ≠ regTy
        · rw [if_pos hne] at hm; cases hm
        · rw [if_neg hne] at hm
          cases hat : attrs.lookup a with
          | none => rw [hat] at hm; cases hm
          | some q =>
            obtain ⟨idx, aty⟩ := q
            rw [hat] at hm
            cases hm
            rw [hs.lookup_some hv, fieldIdx_of hs hv hty hat]
            have hreg : regTy = Ty.struct sn attrs := (Classical.not_not.mp hne).symm
            have hfty : fieldTy val idx = some aty := by
              unfold fieldTy; rw [hty]
              exact hn.attrs sn sn attrs (by rw [hg, hreg]) a idx aty hat
            have hy : (tyStepEnv s.tenv (.exprStructValue val idx s.incReg.curReg)).reg (s.incReg.curReg + 1) = some aty := by
              rw [tyStepEnv_field, hfty]
              exact reg_cons_eq ..
            obtain ⟨t1, r1⟩ := den_incPush_alias (g := g) (i := .exprStructValue val idx s.incReg.curReg) rfl rfl
              (List.append_nil _).symm (fun _ hq => nomatch hq)
              (fun R hwk b hb => by
                rw [tyStepBad_field _ _ _ _ _ _ _ hty hfty, dscope_declOk hs hv, hwk] at hb
                cases hb)
              (AbsSt.bind_reg_self ..) hy
            exact ⟨t1.then (trans_incReg _), r1⟩

theorem noerr_split {a b c : St} (h1 : ∃ Δ, b.errors = a.errors ++ Δ) (h2 : ∃ Δ, c.errors = b.errors ++ Δ)
    (h : c.errors = a.errors) : b.errors = a.errors ∧ c.errors = b.errors := by
  obtain ⟨d1, h1⟩ := h1
  obtain ⟨d2, h2⟩ := h2
  rw [h2, h1, List.append_assoc] at h
  obtain ⟨rfl, rfl⟩ := List.append_eq_nil_iff.mp (List.append_right_eq_self.mp h)
  exact ⟨h1.trans (List.append_nil _), h2.trans (List.append_nil _)⟩

theorem noerr_addErr {a b c : St} {k : ErrKind} {v : Name} {l o : Nat} (h1 : ∃ Δ, b.errors = a.errors ++ Δ)
    (h2 : ∃ Δ, c.errors = (b.addErr k v l o).errors ++ Δ) : c.errors ≠ a.errors := by
  obtain ⟨d1, h1⟩ := h1
  obtain ⟨d2, h2⟩ := h2
  intro h
  have h2' : c.errors = b.errors ++ [_] ++ d2 := h2
  rw [h2', h1, List.append_assoc, List.append_assoc] at h
  cases (List.append_eq_nil_iff.mp (List.append_eq_nil_iff.mp (List.append_right_eq_self.mp h)).2).1

theorem addErr_ne {a b : St} (h : ∃ Δ, b.errors = a.errors ++ Δ) (k : ErrKind) (v : Name) (l o : Nat) :
    (b.addErr k v l o).errors ≠ a.errors :=
  noerr_addErr h ⟨[], (List.append_nil _).symm⟩

theorem den_pair {g : Globals} {ss : SpecSt} {l r : EvalM} {dl dr : Den} (o : Op) (hl : DenSim g ss l dl) (hr : DenSim g ss r dr)
    (el : EM l) (er : EM r) : DenSim g ss (evalPair l o r) (dl.1 ++ dr.1, .op o dl.2 dr.2) := by
  intro s res s' hs hm he
  unfold evalPair at hm
  have x1 := (el s).errors_ext
  cases hls : l s with
  | mk a s1 =>
    rw [hls] at hm x1
    cases a with
    | none => cases hm
    | some lv =>
      dsimp only at hm
      have x2 := (er s1).errors_ext
      cases hrs : r s1 with
      | mk b s2 =>
        rw [hrs] at hm x2
        cases b with
        | none => cases hm
        | some rv =>
          dsimp only at hm
          by_cases hne : lv.ty ≠ rv.ty
          · rw [if_pos hne] at hm; cases hm
          · rw [if_neg hne] at hm
            cases hm
            obtain ⟨e1, e2⟩ := noerr_split x1 x2 he
            obtain ⟨t1, r1, h1⟩ := hl s lv s1 hs hls e1
            obtain ⟨t2, r2, h2⟩ := hr s1 rv s2 (hs.of_trans t1) hrs e2
            have hlv : s2.abs.res lv = dl.2 := by rw [t2.stable lv h1, r1]
            have hty' : lv.ty = rv.ty := Classical.not_not.mp hne
            obtain ⟨t3, r3⟩ := den_incPush (g := g) (i := .exprOp o lv rv s2.incReg.curReg) rfl (List.append_nil _).symm
              (fun q hq => (List.mem_append.mp hq).elim ((h1.of_trans t2).regs q) (h2.regs q))
              (fun R hwk b hb => by
                change b ∈ badIf _ _ ++ badIf _ _ ++ badIf (_ == _) _ ++ badIf _ _ at hb
                rw [(h1.of_trans t2).operandOk, h2.operandOk, beq_iff_eq.mpr hty', hwk] at hb
                cases hb)
              (AbsSt.bind_reg_self ..) (reg_cons_eq ..)
            rw [hlv, r2] at r3
            exact ⟨(t1.trans t2).then t3, r3⟩

theorem den_tree {g : Globals} {ss : SpecSt} {γ : Type} (fm : γ → EvalM) (fd : γ → Den) (t : W γ)
    (h : ∀ a ∈ t.atoms, DenSim g ss (fm a) (fd a) ∧ EM (fm a)) :
    DenSim g ss (runW (t.map fm)) (denTree (t.map fd)) ∧ EM (runW (t.map fm)) := by
  induction t with
  | atom a => exact h a (List.mem_singleton_self a)
  | pair l o r ihl ihr =>
    have hl := ihl fun a ha => h a (List.mem_append_left _ ha)
    have hr := ihr fun a ha => h a (List.mem_append_right _ ha)
    exact ⟨den_pair o hl.1 hr.1 hl.2 hr.2, em_evalPair _ _ _ hl.2 hr.2⟩

def argEvents (l : List (EvalM × Den)) : List DStmt := (l.map (·.2.1)).flatten

def argTrees (l : List (EvalM × Den)) : List DTree := l.map (·.2.2)

theorem den_args {g : Globals} {ss : SpecSt} (l : List (EvalM × Den)) (h : ∀ x ∈ l, DenSim g ss x.1 x.2 ∧ EM x.1) :
    ∀ (tys : List Ty) (s : St) (rs : List ExprResult) (s' : St), DScope s ss →
    evalArgs (l.map (·.1)) tys s = (some rs, s') → s'.errors = s.errors →
    Trans g s s' (argEvents l) ∧ rs.map s'.abs.res = argTrees l ∧ (∀ r ∈ rs, Held s' r) ∧
    ((rs.zip tys).all fun (a, t) => a.ty == t) = true := by
  induction l with
  | nil =>
    intro tys s rs s' _ hm _
    cases hm
    exact ⟨Trans.refl s, rfl, (fun _ hr => nomatch hr), rfl⟩
  | cons md l ih =>
    obtain ⟨m, d⟩ := md
    intro tys s rs s' hs hm he
    have hmd : DenSim g ss m d ∧ EM m := h (m, d) List.mem_cons_self
    have hrest : ∀ x ∈ l, DenSim g ss x.1 x.2 ∧ EM x.1 := fun x hx => h x (List.mem_cons_of_mem _ hx)
    have hem : ∀ m' ∈ l.map (·.1), EM m' := fun m' hm' => by
      obtain ⟨x, hx, rfl⟩ := List.mem_map.mp hm'
      exact (hrest x hx).2
    rw [List.map_cons, evalArgs] at hm
    dsimp only at hm
    have x1 := hmd.2.errors_ext s
    cases hms : m s with
    | mk a s1 =>
      rw [hms] at hm x1
      cases a with
      | none => cases hm
      | some r =>
        cases tys with
        | nil => cases hm
        | cons t ts =>
          dsimp only at hm
          by_cases hne : r.ty ≠ t
          · -- a reported argument type: the error stays
            rw [if_pos hne] at hm
            have x2 := evalArgs_errors_ext (l.map (·.1)) hem ts (s1.addErr .functionParameterTypeWrong r.ty.show 1 0)
            rw [hm] at x2
            exact absurd he (noerr_addErr x1 x2)
          · rw [if_neg hne] at hm
            have x2 := evalArgs_errors_ext (l.map (·.1)) hem ts s1
            cases hrs : evalArgs (l.map (·.1)) ts s1 with
            | mk b s2 =>
              rw [hrs] at hm x2
              cases b with
              | none => cases hm
              | some rs' =>
                cases hm
                obtain ⟨e1, e2⟩ := noerr_split x1 x2 he
                obtain ⟨t1, r1, hd1⟩ := hmd.1 s r s1 hs hms e1
                obtain ⟨t2, r2, hd2, hz2⟩ := ih hrest ts s1 rs' s' (hs.of_trans t1) hrs e2
                refine ⟨t1.trans t2, ?_, ?_, ?_⟩
                · rw [List.map_cons, t2.stable r hd1, r1, r2]; rfl
                · intro x hx
                  rcases List.mem_cons.mp hx with rfl | hx
                  · exact hd1.of_trans t2
                  · exact hd2 x hx
                · rw [List.zip_cons_cons, List.all_cons, hz2, Bool.and_true]
                  exact beq_iff_eq.mpr (Classical.not_not.mp hne)

/-- the call instruction; the operand it leaves is available after the counter is bumped once more -/
theorem den_functionCall {g : Globals} (hn : GNames g) {ss : SpecSt} (f : Name) (l : List (EvalM × Den))
    (h : ∀ x ∈ l, DenSim g ss x.1 x.2 ∧ EM x.1) (s : St) (ty : Ty) (s' : St) (hs : DScope s ss)
    (hm : functionCall g f (l.map (·.1)) s = (some ty, s')) (he : s'.errors = s.errors) :
    Trans g s s' (argEvents l ++ [.callS (.call f (argTrees l))]) ∧
    ResD s'.incReg ⟨ty, .reg s'.incReg.curReg⟩ (.call f (argTrees l)) := by
  unfold functionCall at hm
  cases hf : g.funcs f with
  | none => rw [hf] at hm; cases hm
  | some fd =>
    rw [hf] at hm
    dsimp only at hm
    have hname := hn.funcs f fd hf
    by_cases hlen : fd.params.length < (l.map (·.1)).length
    · rw [if_pos hlen] at hm; cases hm
    · rw [if_neg hlen] at hm
      cases ha : evalArgs (l.map (·.1)) fd.params s with
      | mk b s1 =>
        rw [ha] at hm
        cases b with
        | none => cases hm
        | some ps =>
          cases hm
          obtain ⟨t1, r1, hheld, hzip⟩ := den_args l h fd.params s ps s1 hs ha he
          have hall : ps.all (operandOk s1.tenv) = true :=
            List.all_eq_true.mpr fun x hx => (hheld x hx).operandOk
          have hfok : fOkOf g fd = true := by unfold fOkOf; rw [hname, hf]; exact beq_self_eq_true _
          obtain ⟨t2, r2⟩ := den_incPush_alias (g := g) (i := .call fd ps s1.incReg.curReg) rfl rfl rfl
            (fun q hq => by
              obtain ⟨x, hx, hqx⟩ := List.mem_flatMap.mp hq
              exact (hheld x hx).regs q hqx)
            (fun R hwk b hb => by
              -- all checks but the argument count pass; that one is a recorded finding
              change b ∈ badIf _ _ ++ badIf _ .argCount ++ badIf _ _ ++ badIf _ _ ++ badIf _ _ at hb
              rw [hfok, hzip, hall, hwk] at hb
              cases hlen' : ps.length == fd.params.length with
              | true => rw [hlen'] at hb; cases hb
              | false => rw [hlen'] at hb; cases List.mem_singleton.mp hb; rfl)
            ((AbsSt.emit_reg ..).trans (AbsSt.bind_reg_self ..)) (reg_cons_eq ..)
          rw [r1, hname] at t2 r2
          exact ⟨t1.trans t2, r2⟩

theorem den_evalCall {g : Globals} (hn : GNames g) {ss : SpecSt} (f : Name) (l : List (EvalM × Den))
    (h : ∀ x ∈ l, DenSim g ss x.1 x.2 ∧ EM x.1) :
    DenSim g ss (evalCall g f (l.map (·.1))) (argEvents l ++ [.callS (.call f (argTrees l))], .call f (argTrees l)) := by
  intro s r s' hs hm he
  unfold evalCall at hm
  cases hfc : functionCall g f (l.map (·.1)) s with
  | mk a s1 =>
    rw [hfc] at hm
    cases a with
    | none => cases hm
    | some ty =>
      cases hm
      obtain ⟨t1, r1⟩ := den_functionCall hn f l h s ty s1 hs hfc he
      exact ⟨t1.then (trans_incReg s1), r1⟩

theorem specRest_eq (ref : Bool) (ss : SpecSt) : ∀ r,
    specRest ref ss r = (chainTail r).map fun x => (x.1, specVal ref ss x.2) :=
  chain_induction (by rw [chainTail]; rfl) fun o v rest ih => by
    show (o, specVal ref ss v) :: specRest ref ss rest = _
    rw [chainTail, List.map_cons, ih]

theorem specArgs_eq (g : Globals) (ref : Bool) (ss : SpecSt) : ∀ (as : List Expr),
    specArgs ref ss as = (argEvents (as.map fun e => (exprM g e, specExpr ref ss e)),
                          argTrees (as.map fun e => (exprM g e, specExpr ref ss e)))
  | [] => rfl
  | e :: es => by
    show ((specExpr ref ss e).1 ++ (specArgs ref ss es).1, (specExpr ref ss e).2 :: (specArgs ref ss es).2) = _
    rw [specArgs_eq g ref ss es]
    rfl

mutual
theorem den_exprM {g : Globals} (hn : GNames g) (ss : SpecSt) :
    ∀ e, DenSim g ss (exprM g e) (specExpr false ss e)
  | .mk v rest => by
    show DenSim g ss (runW (foldChain Generated.prio (valM g v) (restM g rest)))
      (denTree (foldChain Generated.prio (specVal false ss v) (specRest false ss rest)))
    rw [restM_eq, specRest_eq, foldChain_map Generated.prio (valM g), foldChain_map Generated.prio (specVal false ss)]
    refine (den_tree (valM g) (specVal false ss) _ fun a ha => ?_).1
    rcases foldChain_atoms_subset Generated.prio v (chainTail rest) a ha with h | h
    · rw [h]; exact ⟨den_valM hn ss v, em_valM g v⟩
    · obtain ⟨⟨o, a'⟩, hm, rfl⟩ := List.mem_map.mp h
      exact ⟨den_chain hn ss rest o a' hm, em_valM g a'⟩
theorem den_chain {g : Globals} (hn : GNames g) (ss : SpecSt) :
    ∀ r, ∀ o a, (o, a) ∈ chainTail r → DenSim g ss (valM g a) (specVal false ss a)
  | none => by intro o a h; rw [chainTail] at h; cases h
  | some (op, .mk v rest) => by
    intro o a h
    rw [chainTail] at h
    rcases List.mem_cons.mp h with h | h
    · cases h; exact den_valM hn ss v
    · exact den_chain hn ss rest o a h
theorem den_valM {g : Globals} (hn : GNames g) (ss : SpecSt) :
    ∀ v, DenSim g ss (valM g v) (specVal false ss v)
  | .var n => den_evalVar hn false ss n
  | .lit v => den_evalLit ss v
  | .call f args => by
    have h := den_evalCall hn f (args.map fun e => (exprM g e, specExpr false ss e)) fun x hx => by
      obtain ⟨e, he, rfl⟩ := List.mem_map.mp hx
      exact ⟨den_args' hn ss args e he, em_exprM g e⟩
    rw [List.map_map] at h
    show DenSim g ss (evalCall g f (argsM g args))
      ((specArgs false ss args).1 ++ [.callS (.call f (specArgs false ss args).2)], .call f (specArgs false ss args).2)
    rw [argsM_eq, specArgs_eq g false ss args]
    exact h
  | .field v a => den_evalField hn false ss v a
  | .sub e => den_exprM hn ss e
  | .ext tag ty => den_evalExt ss tag ty
theorem den_args' {g : Globals} (hn : GNames g) (ss : SpecSt) :
    ∀ (as : List Expr), ∀ e ∈ as, DenSim g ss (exprM g e) (specExpr false ss e)
  | [] => by intro e h; cases h
  | a :: as => by
    intro e h
    -- the recursive call is on the pattern variable, so that the recursion is structural
    rcases List.mem_cons.mp h with h | h
    · rw [h]; exact den_exprM hn ss a
    · exact den_args' hn ss as e h
end

end SemVerif
