import SemVerif.Lemmas.T2Ctl
/-!
# Lemmas/T2Fn — family T2, parameters, the function body loop and the whole function

`T2_function`: for a function whose analysis reports no error (tables related to those of the rule
checker, loop-flavoured if-bodies inside loops), the abstract reading of the emitted root stack is
the statement list the source denotes — for every body, nesting depth and chain length.  It also hands
on what `DRel` carried to the end state: `RdInv` (C08), `TOK` (C04, two checks still open, closed in
`Lemmas/TypedFull`) and `FramesOk` (C18 value tables).
-/
namespace SemVerif

theorem paramInv_param {s : St} (hinv : ParamInv s) {n : Name} (hl : s.lookupValue n = none) (v : Value) (i : Instr) :
    n ∉ s.root.innerNames ∧ ParamInv (((s.insertValue n v).registerInner n).push i) := by
  obtain ⟨hin, hkeys⟩ := hinv
  have hlook : assocGet n s.root.values = none := by
    simpa [St.lookupValue, St.frames, hin] using hl
  refine ⟨fun hc => ?_, ?_, ?_⟩
  · have := hkeys n hc
    rw [hlook] at this
    cases this
  · simp [St.push, St.mapFrames, St.registerInner, St.insertValue, St.mapCur, hin]
  · intro m hm
    simp only [St.push, St.mapFrames, St.registerInner, St.insertValue, St.mapCur, hin, mem_setInsert] at hm ⊢
    rcases hm with rfl | hm
    · rw [assocGet_insert_self]; rfl
    · by_cases hmn : m = n
      · rw [hmn, assocGet_insert_self]; rfl
      · rw [assocGet_insert_ne _ _ _ _ hmn]
        exact hkeys m hm

theorem den_initParams {g : Globals} {R : Ty} : ∀ (ps : List (Name × ATy)) (s : St) (ss : SpecSt), ParamInv s → DRel g R s ss →
    (initParams ps s).errors = s.errors → DRel g R (initParams ps s) (specParams ps ss)
  | [], _, _, _, hr, _ => hr
  | (n, t) :: rest, s, ss, hinv, hr, he => by
    rw [initParams] at he ⊢
    cases hl : s.lookupValue n with
    | some v =>
      rw [hl] at he
      exact absurd (congrArg List.length he) (by simp [St.addErr])
    | none =>
      rw [hl] at he
      dsimp only at he ⊢
      obtain ⟨hfresh, hinv'⟩ := paramInv_param hinv hl ⟨n, t.toTy, false, false, false⟩
        (.fnArg ⟨n, t.toTy, false, false, false⟩ ⟨n, t.toTy⟩)
      have hstep := hr.declare n ⟨n, t.toTy, false, false, false⟩ (.fnArg ⟨n, t.toTy, false, false, false⟩ ⟨n, t.toTy⟩)
        (.param s.abs.decls.length) hfresh (abstractStep_fnArg ..) rfl (fun q hq => by cases hq)
        rfl rfl (fun b hb => by cases hb)
      rw [hr.next] at hstep
      refine den_initParams rest _ _ hinv' hstep (he.trans ?_)
      unfold St.push St.registerInner St.mapFrames St.insertValue St.mapCur
      cases s.inner <;> rfl

variable {g : Globals} {R : Ty} {rg : RGlobals}

theorem fnReturn_len (resTy : Ty) (e : Expr) (rc : Bool) (s : St) :
    (fnReturn g resTy e rc s).1.inner.length = s.inner.length := by
  obtain ⟨s2, h2, h | ⟨r, h⟩⟩ := fnReturn_split g resTy e rc s
  · rw [h]; exact h2.inner_len
  · rw [h]
    dsimp only
    split <;> rw [(push_fields _ _).2, h2.inner_len]

theorem den_bodyStmts (hg : GlobRel g rg) (hn : GNames g) (resTy : Ty) : ∀ (l : List BodyStmt) (rc : Bool),
    BodyStmt.anaOKL l = true → ∀ s ss, DRel g resTy s ss → (bodyStmts g resTy l rc s).1.errors = s.errors →
      DRel g resTy (bodyStmts g resTy l rc s).1 (specBody false rg l ss) ∧ (bodyStmts g resTy l rc s).1.inner.length = s.inner.length
  | [], _ => by
    intro _ s ss hr _
    exact ⟨hr, rfl⟩
  | st :: tl, rc => by
    intro hok s ss hr he
    rw [BodyStmt.anaOKL_cons, Bool.and_eq_true] at hok
    rw [bodyStmts_cons] at he ⊢
    rw [specBody_cons]
    generalize st.split = q at hok he ⊢
    cases q with
    | inl n =>
      exact den_seq (steps_nStmt' g _ n _ s).errors_ext (steps_bodyStmts g resTy tl rc _).errors_ext he
        (den_nStmt_ok hg hn ⟨none, none⟩ n ⟨rc, false, false⟩ hok.1 s ss hr) (den_bodyStmts hg hn resTy tl rc hok.2 _ _)
    | inr e =>
      exact den_seq ((esteps_forbidden rc false false s).toSteps.trans (steps_fnReturn g resTy e rc _)).errors_ext
        (steps_bodyStmts g resTy tl _ _).errors_ext he
        (ctd_forbidden ⟨rc, false, false⟩ (fun s => (steps_fnReturn g resTy e rc s).errors_ext)
          (fun s ss hr he => ⟨den_fnReturn hg hn resTy e rc s ss hr he, fnReturn_len resTy e rc s⟩) s ss hr)
        (den_bodyStmts hg hn resTy tl _ hok.2 _ _)

theorem drel_init {g : Globals} {R : Ty} : DRel g R St.init SpecSt.init := by
  have hd : (St.init).dts = [.node [] [] []] := by
    unfold St.dts St.frames
    rw [List.map_append, List.map_cons, dt_def]
    rfl
  refine ⟨⟨?_, ?_, ?_, ?_⟩, rfl, rfl, ?_, ⟨?_, rfl, ?_⟩, ?_, ?_, ?_, ?_⟩
  · exact ValsRel.cons (fun _ => rfl) ValsRel.nil
  · exact DVals.cons (fun _ => rfl) DVals.nil
  · intro fr hfr n v hv
    cases List.mem_singleton.mp hfr
    cases hv
  · intro d hd; cases hd
  · intro n hn; cases hn
  · intro b hb; cases hb
  · intro pre i post h
    exact absurd (congrArg List.length h) (by simp [St.init, Block.fresh])
  · intro pb hpb; cases hpb
  · rw [hd]
    exact framesOk_enter (FramesOk.nil _)
  · rw [hd]
    intro t ht x hx
    cases List.mem_singleton.mp ht
    cases hx
  · intro p hp; cases hp

theorem T2_function (hg : GlobRel g rg) (hn : GNames g) (f : FnDecl) (hok : BodyStmt.anaOKL f.body = true)
    (he : (functionBody g f).errors = []) :
    abstractStack (functionBody g f).root.context = specStmts false rg f ∧ RdInv (functionBody g f) ∧
    TOK g f.result.toTy (functionBody g f) ∧
    FramesOk (functionBody g f).dts [] (specBody false rg f.body (specParams f.params SpecSt.init)).dscope
      (specBody false rg f.body (specParams f.params SpecSt.init)).kids := by
  unfold functionBody at he ⊢
  unfold specStmts
  dsimp only at he ⊢
  have x1 := (esteps_initParams f.params St.init paramInv_init).errors_ext
  have h1 := den_initParams (g := g) (R := f.result.toTy) f.params St.init SpecSt.init paramInv_init drel_init
  generalize initParams f.params St.init = s1 at he x1 h1 ⊢
  have x2 := (steps_bodyStmts g f.result.toTy f.body false s1).errors_ext
  have h2 := den_bodyStmts hg hn f.result.toTy f.body false hok s1 (specParams f.params SpecSt.init)
  generalize bodyStmts g f.result.toTy f.body false s1 = q at he x2 h2 ⊢
  obtain ⟨s2, rc⟩ := q
  dsimp only at he x2 h2 ⊢
  cases rc with
  | false => exact absurd he (List.append_ne_nil_of_right_ne_nil _ (List.cons_ne_nil _ _))
  | true =>
    obtain ⟨e1, e2⟩ := chain2 x1 x2 (he : s2.errors = St.init.errors)
    obtain ⟨r2, _⟩ := h2 (h1 e1) e2
    exact ⟨r2.out, r2.rd, r2.tok, r2.vinv⟩

end SemVerif
