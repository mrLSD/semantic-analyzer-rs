import SemVerif.Lemmas.ValInv
import SemVerif.Lemmas.BodySpec
/-!
# Lemmas/SpecShape — what the source denotation records about nesting and names

Specification-side only: running the denotation over a function body extends the names of the
innermost open block by the `let`s of the body and closes one shape per nested block, in source
order — exactly `FnDecl.sourceShape`.
-/
namespace SemVerif

def SG (a b : SpecSt) (names : List Name) (sh : List Shape) : Prop :=
  ∀ fr frs k ks, a.dscope = fr :: frs → a.kids = k :: ks →
    ∃ fr', b.dscope = fr' :: frs ∧ frameNames fr' = frameNames fr ++ names ∧ b.kids = (k ++ sh) :: ks

theorem SG.of_eq {a b : SpecSt} (h1 : b.dscope = a.dscope) (h2 : b.kids = a.kids) : SG a b [] [] := by
  intro fr frs k ks h1' h2'
  exact ⟨fr, h1.trans h1', (List.append_nil _).symm, by rw [h2, h2', List.append_nil]⟩

theorem SG.refl (a : SpecSt) : SG a a [] [] := SG.of_eq rfl rfl

theorem SG.trans {a b c : SpecSt} {n1 n2 : List Name} {s1 s2 : List Shape} (h1 : SG a b n1 s1) (h2 : SG b c n2 s2) :
    SG a c (n1 ++ n2) (s1 ++ s2) := by
  intro fr frs k ks ha hk
  obtain ⟨fr1, hb, hn1, hk1⟩ := h1 fr frs k ks ha hk
  obtain ⟨fr2, hc, hn2, hk2⟩ := h2 fr1 frs (k ++ s1) ks hb hk1
  exact ⟨fr2, hc, by rw [hn2, hn1, List.append_assoc], by rw [hk2, List.append_assoc]⟩

theorem sg_block {a b : SpecSt} {names : List Name} {sh : List Shape} (h : SG a.push b names sh) :
    SG a b.pop [] [.node names sh] := by
  intro fr frs k ks ha hk
  obtain ⟨fr', hb, hn, hkb⟩ := h [] (fr :: frs) [] (k :: ks) (congrArg (List.cons []) ha) (congrArg (List.cons []) hk)
  refine ⟨fr, ?_, (List.append_nil _).symm, ?_⟩
  · show b.dscope.tail = _
    rw [hb]; rfl
  · show closeKids (frameNames (b.dscope.headD [])) b.kids = _
    rw [hb, hkb, List.headD_cons, hn]
    rfl

theorem sg_emits (a : SpecSt) (evs : List DStmt) : SG a (a.emits evs) [] [] := SG.of_eq rfl rfl

theorem sg_emit (a : SpecSt) (ev : DStmt) : SG a (a.emit ev) [] [] := SG.of_eq rfl rfl

theorem sg_declare (a : SpecSt) (n : Name) (t : Ty) (m : Bool) : SG a (a.declare n t m).1 [n] [] := by
  intro fr frs k ks ha hk
  unfold SpecSt.declare
  dsimp only
  rw [ha]
  exact ⟨_, rfl, frameNames_cons _ _ _, by rw [hk, List.append_nil]⟩

theorem sg_let (rg : RGlobals) (b : LetB) (a : SpecSt) : SG a (specLet false rg b a) [b.name] [] :=
  ((sg_emits a _).trans (sg_declare _ _ _ _)).trans (sg_emit _ _)

theorem sg_bind (b : Bind) (a : SpecSt) : SG a (specBind false b a) [] [] := (sg_emits a _).trans (sg_emit _ _)

theorem sg_callS (c : CallS) (a : SpecSt) : SG a (specCallS false c a) [] [] := sg_emits a _

theorem sg_ifCond (c : IfCond) (a : SpecSt) : SG a (specIfCond false c a) [] [] := by
  cases c with
  | single e => exact (sg_emits a _).trans (sg_emit _ _)
  | logic lc => exact (sg_emits a _).trans (sg_emit _ _)

theorem sg_jret (rg : RGlobals) (e : Expr) (a : SpecSt) : SG a (specJret false rg e a) [] [] :=
  (sg_emits a _).trans (sg_emit _ _)

theorem sg_ret (e : Expr) (a : SpecSt) : SG a (specRet false e a) [] [] := (sg_emits a _).trans (sg_emit _ _)

variable (rg : RGlobals)

theorem sg_specN (st : NStmt) (a : SpecSt)
    (h : st.Sub (fun i => ∀ a, SG a (specIf false rg i a) [] (IfStmt.shapes i))
      (fun l => ∀ a, SG a (specLoopBody false rg l a) (LoopStmt.letsL l) (LoopStmt.shapesL l))) :
    SG a (specN false rg st a) st.lets st.shapes := by
  cases st with
  | letB b => exact sg_let rg b a
  | bind b => exact sg_bind b a
  | call c => exact sg_callS c a
  | ifS i => exact h a
  | loop l => exact sg_block (h a.push)
  | ret e => exact sg_jret rg e a
  | brk => exact SG.refl a
  | cont => exact SG.refl a

theorem sg_ind : BodyInd
    (fun i => ∀ a, SG a (specIf false rg i a) [] (IfStmt.shapes i))
    (fun b => ∀ a, SG a (specBodies false rg b a) b.lets (IfBodies.shapes b))
    (fun l => ∀ a, SG a (specIfBody false rg l a) (IfBodyStmt.letsL l) (IfBodyStmt.shapesL l))
    (fun l => ∀ a, SG a (specIfLoopBody false rg l a) (IfLoopStmt.letsL l) (IfLoopStmt.shapesL l))
    (fun l => ∀ a, SG a (specLoopBody false rg l a) (LoopStmt.letsL l) (LoopStmt.shapesL l)) where
  ifS cond body els elif hb he hi a := by
    have h1 : SG a (specBodies false rg body (specIfCond false cond a.push)).pop [] [.node body.lets (IfBodies.shapes body)] :=
      sg_block ((sg_ifCond cond a.push).trans (hb _))
    cases els with
    | some eb => exact h1.trans (sg_block (he eb rfl _))
    | none =>
      cases elif with
      | some ei => exact h1.trans (hi ei rfl _)
      | none => exact h1
  ifb _ h := h
  loopb _ h := h
  ifNil := SG.refl
  ifCons st tl hs ht a := by
    rw [specIfBody_cons, IfBodyStmt.letsL_cons, IfBodyStmt.shapesL_cons]
    exact (sg_specN rg st.toN a hs).trans (ht _)
  ifLoopNil := SG.refl
  ifLoopCons st tl hs ht a := by
    rw [specIfLoopBody_cons, IfLoopStmt.letsL_cons, IfLoopStmt.shapesL_cons]
    exact (sg_specN rg st.toN a hs).trans (ht _)
  loopNil := SG.refl
  loopCons st tl hs ht a := by
    rw [specLoopBody_cons, LoopStmt.letsL_cons, LoopStmt.shapesL_cons]
    exact (sg_specN rg st.toN a hs).trans (ht _)

theorem sg_if : ∀ (i : IfStmt) (a : SpecSt), SG a (specIf false rg i a) [] (IfStmt.shapes i) :=
  (sg_ind rg).ifStmt

theorem sg_bodies : ∀ (b : IfBodies) (a : SpecSt), SG a (specBodies false rg b a) b.lets (IfBodies.shapes b) :=
  (sg_ind rg).bodies

theorem sg_ifBody : ∀ (l : List IfBodyStmt) (a : SpecSt), SG a (specIfBody false rg l a) (IfBodyStmt.letsL l) (IfBodyStmt.shapesL l) :=
  (sg_ind rg).ifBody

theorem sg_ifLoopBody : ∀ (l : List IfLoopStmt) (a : SpecSt), SG a (specIfLoopBody false rg l a) (IfLoopStmt.letsL l) (IfLoopStmt.shapesL l) :=
  (sg_ind rg).ifLoopBody

theorem sg_loopBody : ∀ (l : List LoopStmt) (a : SpecSt), SG a (specLoopBody false rg l a) (LoopStmt.letsL l) (LoopStmt.shapesL l) :=
  (sg_ind rg).loopBody

theorem sg_body : ∀ (l : List BodyStmt) (a : SpecSt), SG a (specBody false rg l a) (BodyStmt.letsL l) (BodyStmt.shapesL l)
  | [], a => SG.refl a
  | st :: tl, a => by
    rw [specBody_cons, BodyStmt.letsL_cons, BodyStmt.shapesL_cons]
    cases st.split with
    | inl n => exact (sg_specN rg n a ((sg_ind rg).sub n)).trans (sg_body tl _)
    | inr e => exact (sg_ret e a).trans (sg_body tl _)

theorem sg_params : ∀ (ps : List (Name × ATy)) (a : SpecSt), SG a (specParams ps a) (ps.map (·.1)) []
  | [], a => SG.refl a
  | (n, t) :: rest, a => ((sg_declare a n t.toTy false).trans (sg_emit _ _)).trans (sg_params rest _)

theorem spec_sourceShape (f : FnDecl) :
    ∃ fr, (specBody false rg f.body (specParams f.params SpecSt.init)).dscope = [fr] ∧
      frameNames fr = f.params.map (·.1) ++ BodyStmt.letsL f.body ∧
      (specBody false rg f.body (specParams f.params SpecSt.init)).kids = [BodyStmt.shapesL f.body] := by
  have h := (sg_params f.params SpecSt.init).trans (sg_body rg f.body _)
  obtain ⟨fr, h1, h2, h3⟩ := h [] [] [] [] rfl rfl
  exact ⟨fr, h1, h2, h3⟩

end SemVerif
