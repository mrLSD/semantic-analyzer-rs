import SemVerif.Lemmas.T2Expr
/-!
# Lemmas/AttrIdx — attribute indices of a registered struct type are distinct

`From<ast::StructTypes>` numbers the attributes by position; an attribute declared twice keeps
the later position.  Hence looking an attribute up by name and then by its index gives the same
type (`Attrs.idxOK`), which the typed reading of a field read (C04) relies on.
-/
namespace SemVerif

/-- `Attrs` is declared mutually with `Ty`, so the `induction` tactic needs an explicit principle -/
theorem Attrs.ind {motive : Attrs → Prop} (nil : motive .nil)
    (cons : ∀ m j u rest, motive rest → motive (.cons m j u rest)) : ∀ a, motive a
  | .nil => nil
  | .cons m j u rest => cons m j u rest (Attrs.ind nil cons rest)

theorem Attrs.insert_cons (n : Name) (i : Nat) (t : Ty) (m : Name) (j : Nat) (u : Ty) (rest : Attrs) :
    (Attrs.cons m j u rest).insert n i t =
      if n = m then .cons n i t rest
      else if Name.lt n m then .cons n i t (.cons m j u rest)
      else .cons m j u (rest.insert n i t) := rfl

theorem Attrs.lookup_cons (n m : Name) (j : Nat) (u : Ty) (rest : Attrs) :
    (Attrs.cons m j u rest).lookup n = if n = m then some (j, u) else rest.lookup n := rfl

def Attrs.idxs : Attrs → List Nat
  | .nil => []
  | .cons _ j _ rest => j :: rest.idxs

theorem Attrs.insert_idxs_mem (n : Name) (i : Nat) (t : Ty) (a : Attrs) (x : Nat) :
    x ∈ (a.insert n i t).idxs → x = i ∨ x ∈ a.idxs := by
  induction a using Attrs.ind with
  | nil => intro h; exact Or.inl (List.mem_singleton.mp h)
  | cons m j u rest ih =>
    intro h
    rw [Attrs.insert_cons] at h
    by_cases h1 : n = m
    · rw [if_pos h1] at h
      exact (List.mem_cons.mp h).imp_right (List.mem_cons_of_mem _)
    · rw [if_neg h1] at h
      by_cases h2 : Name.lt n m = true
      · rw [if_pos h2] at h
        exact List.mem_cons.mp h
      · rw [if_neg h2] at h
        rcases List.mem_cons.mp h with h | h
        · exact Or.inr (h ▸ List.mem_cons_self)
        · exact (ih h).imp_right (List.mem_cons_of_mem _)

theorem Attrs.insert_nodup (n : Name) (i : Nat) (t : Ty) (a : Attrs) :
    a.idxs.Nodup → (∀ j ∈ a.idxs, j < i) → (a.insert n i t).idxs.Nodup := by
  induction a using Attrs.ind with
  | nil => intro _ _; exact List.pairwise_singleton _ _
  | cons m j u rest ih =>
    intro hnd hlt
    have hnd := List.nodup_cons.mp hnd
    have hj : j < i := hlt j List.mem_cons_self
    have hrest : ∀ k ∈ rest.idxs, k < i := fun k hk => hlt k (List.mem_cons_of_mem _ hk)
    have hi : i ∉ rest.idxs := fun h => Nat.lt_irrefl _ (hrest i h)
    rw [Attrs.insert_cons]
    by_cases h1 : n = m
    · rw [if_pos h1]
      exact List.nodup_cons.mpr ⟨hi, hnd.2⟩
    · rw [if_neg h1]
      by_cases h2 : Name.lt n m = true
      · rw [if_pos h2]
        refine List.nodup_cons.mpr ⟨fun h => ?_, List.nodup_cons.mpr hnd⟩
        rcases List.mem_cons.mp h with h | h
        · exact Nat.ne_of_gt hj h
        · exact hi h
      · rw [if_neg h2]
        refine List.nodup_cons.mpr ⟨fun h => ?_, ih hnd.2 hrest⟩
        rcases Attrs.insert_idxs_mem n i t rest j h with h | h
        · exact Nat.ne_of_lt hj h
        · exact hnd.1 h

theorem attrsToMap_nodup (l : List (Name × ATy)) : ∀ (i : Nat) (acc : Attrs),
    acc.idxs.Nodup → (∀ j ∈ acc.idxs, j < i) → (attrsToMap l i acc).idxs.Nodup := by
  induction l with
  | nil => intro _ acc h _; exact h
  | cons x rest ih =>
    intro i acc h hlt
    refine ih (i + 1) _ (Attrs.insert_nodup x.1 i x.2.toTy acc h hlt) fun j hj => ?_
    rcases Attrs.insert_idxs_mem x.1 i x.2.toTy acc j hj with h | h
    · exact Nat.lt_succ_of_le (Nat.le_of_eq h)
    · exact Nat.lt_succ_of_lt (hlt j h)

theorem Attrs.lookup_idx_mem (a : Attrs) (n : Name) (idx : Nat) (t : Ty) : a.lookup n = some (idx, t) → idx ∈ a.idxs := by
  induction a using Attrs.ind with
  | nil => intro h; cases h
  | cons m j u rest ih =>
    intro h
    rw [Attrs.lookup_cons] at h
    split at h
    · cases h; exact List.mem_cons_self
    · exact List.mem_cons_of_mem _ (ih h)

theorem Attrs.idxOK_of_nodup (a : Attrs) : a.idxs.Nodup → a.idxOK := by
  induction a using Attrs.ind with
  | nil => intro _ n idx t h; cases h
  | cons m j u rest ih =>
    intro hnd n idx t h
    have hnd := List.nodup_cons.mp hnd
    rw [Attrs.lookup_cons] at h
    show (if idx = j then some u else rest.byIndex idx) = some t
    split at h
    · cases h; exact if_pos rfl
    · have hne : idx ≠ j := fun e => hnd.1 (e ▸ Attrs.lookup_idx_mem rest n idx t h)
      rw [if_neg hne]
      exact ih hnd.2 n idx t h

theorem attrsToMap_idxOK (l : List (Name × ATy)) : (attrsToMap l 0 .nil).idxOK :=
  Attrs.idxOK_of_nodup _ (attrsToMap_nodup l 0 .nil .nil (fun _ h => by cases h))

end SemVerif
