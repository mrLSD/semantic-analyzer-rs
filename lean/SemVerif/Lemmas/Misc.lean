import SemVerif.Analyzer
import SemVerif.Spec.RuleSet
import SemVerif.Spec.Stack
/-! # Lemmas/Misc — the function list of a program; association lists; lists without repetition -/
namespace SemVerif

theorem fns_eq_fnDecls (p : Program) : p.fns = p.fnDecls := by
  induction p with
  | nil => rfl
  | cons t rest ih =>
    cases t with
    | fn f => exact congrArg (f :: ·) ih
    | _ => exact ih

theorem assocGet_eq_none_iff {β : Type} (k : Name) (l : List (Name × β)) : assocGet k l = none ↔ k ∉ l.map (·.1) := by
  induction l with
  | nil => simp only [assocGet, List.map_nil, List.not_mem_nil, not_false_eq_true]
  | cons x rest ih =>
    simp only [assocGet, List.map_cons, List.mem_cons, not_or, ← ih]
    by_cases h : k = x.1
    · simp only [h, if_true, reduceCtorEq, not_true_eq_false, false_and]
    · simp only [h, if_false, not_false_eq_true, true_and]

theorem assocGet_none_of_not_mem {β : Type} (k : Name) : ∀ (l : List (Name × β)), k ∉ l.map (·.1) → assocGet k l = none :=
  fun l => (assocGet_eq_none_iff k l).mpr

theorem assocGet_some_iff {β : Type} (k : Name) (v : β) (l : List (Name × β)) (hn : (l.map (·.1)).Nodup) :
    assocGet k l = some v ↔ (k, v) ∈ l := by
  induction l with
  | nil => simp only [assocGet, reduceCtorEq, List.not_mem_nil]
  | cons x rest ih =>
    rw [List.map_cons, List.nodup_cons] at hn
    obtain ⟨k', v'⟩ := x
    simp only [assocGet, List.mem_cons, Prod.mk.injEq]
    by_cases hk : k = k'
    · subst hk
      have : (k, v) ∉ rest := fun hm => hn.1 (List.mem_map.mpr ⟨(k, v), hm, rfl⟩)
      simp only [if_true, Option.some.injEq, true_and, this, or_false]
      exact eq_comm
    · simp only [hk, if_false, false_and, false_or]
      exact ih hn.2

theorem assocGet_perm {β : Type} (k : Name) {l l' : List (Name × β)} (hp : l.Perm l') (hn : (l.map (·.1)).Nodup) :
    assocGet k l = assocGet k l' := by
  apply Option.ext
  intro v
  rw [assocGet_some_iff k v l hn, assocGet_some_iff k v l' ((hp.map _).nodup_iff.mp hn), hp.mem_iff]

theorem eq_of_key_eq {β : Type} {l : List (Name × β)} (hn : (l.map (·.1)).Nodup) {a b : Name × β} (ha : a ∈ l) (hb : b ∈ l)
    (hk : a.1 = b.1) : a = b := by
  have := (assocGet_some_iff b.1 b.2 l hn).mpr hb
  rw [← hk, (assocGet_some_iff a.1 a.2 l hn).mpr ha] at this
  exact Prod.ext hk (Option.some.inj this)

theorem assocGet_append {β : Type} (k : Name) (l m : List (Name × β)) :
    assocGet k (l ++ m) = (assocGet k l).or (assocGet k m) := by
  induction l with
  | nil => rfl
  | cons x rest ih =>
    simp only [List.cons_append, assocGet]
    split
    · rfl
    · exact ih

theorem assocGet_map {β γ : Type} (f : β → γ) (k : Name) (l : List (Name × β)) :
    assocGet k (l.map fun x => (x.1, f x.2)) = (assocGet k l).map f := by
  induction l with
  | nil => rfl
  | cons x rest ih =>
    simp only [List.map_cons, assocGet]
    split
    · rfl
    · exact ih

theorem assocInsert_absent {β : Type} (k : Name) (v : β) (l : List (Name × β)) (h : assocGet k l = none) :
    assocInsert k v l = l ++ [(k, v)] := by
  induction l with
  | nil => rfl
  | cons x rest ih =>
    rw [assocGet_eq_none_iff, List.map_cons, List.mem_cons, not_or, ← assocGet_eq_none_iff] at h
    simp only [assocInsert, if_neg h.1, ih h.2, List.cons_append]

theorem nodupB_of_nodup {α : Type} [DecidableEq α] (l : List α) (h : l.Nodup) : nodupB l = true := by
  induction l with
  | nil => rfl
  | cons a rest ih =>
    rw [List.nodup_cons] at h
    show (!rest.contains a && nodupB rest) = true
    rw [List.contains_eq_mem, decide_eq_false h.1, ih h.2]
    rfl

/-- a check that passes adds nothing to the report -/
theorem append_ite_nil {β : Type} {c : Prop} [Decidable c] (h : c) (y x : List β) :
    y ++ (if c then [] else x) = y := by
  rw [if_pos h, List.append_nil]

theorem resultRegs_append (l : List Instr) (i : Instr) : resultRegs (l ++ [i]) = resultRegs l ++ i.writes.toList := by
  unfold resultRegs
  rw [List.filterMap_append]
  cases h : i.writes <;> simp only [List.filterMap_cons, List.filterMap_nil, h, Option.toList]

end SemVerif
