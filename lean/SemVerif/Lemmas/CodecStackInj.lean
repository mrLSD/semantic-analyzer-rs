import SemVerif.Spec.CodecStack
import SemVerif.Lemmas.CodecInj
/-!
# Lemmas/CodecStackInj — the JSON data model of instruction stacks is injective (C20)
-/
namespace SemVerif

theorem ofList_inj {a b : Name} : String.ofList a = String.ofList b ↔ a = b :=
  ⟨fun h => String.ofList_injective h, congrArg _⟩

mutual
theorem encTy_inj (a b : Ty) (h : encTy a = encTy b) : a = b := by
  cases a <;> cases b <;> change tag1 _ _ = tag1 _ _ at h <;>
    simp only [tag1_inj, tag0_inj, String.reduceEq, false_and, true_and, obj_cons_inj, and_true,
      Json.str.injEq, Json.arr.injEq, List.cons.injEq, Json.num.injEq, Int.natCast_inj,
      PrimTy.variant_iff] at h
  case prim.prim p q => rw [h]
  case struct.struct n as m bs => rw [h.1, encAttrMap_inj as bs (Json.obj.inj h.2)]
  case array.array t n u k => rw [encTy_inj t u h.1, h.2]
termination_by structural a
theorem encAttrMap_inj : ∀ (a b : Attrs), encAttrMap a = encAttrMap b → a = b
  | .nil, .nil, _ => rfl
  | .nil, .cons _ _ _ _, h => nomatch h
  | .cons _ _ _ _, .nil, h => nomatch h
  | .cons n i t r, .cons n' i' t' r', h => by
    change _ :: _ = _ :: _ at h
    simp only [List.cons.injEq, Prod.mk.injEq, obj_cons_inj, and_true, Json.str.injEq,
      Json.num.injEq, Int.natCast_inj] at h
    rw [h.1.2.1, h.1.2.2.1, encTy_inj t t' h.1.2.2.2, encAttrMap_inj r r' h.2]
termination_by structural a => a
end

theorem encTy_iff {a b : Ty} : encTy a = encTy b ↔ a = b := inj_iff encTy_inj

theorem encAttrMap_iff {a b : Attrs} : Json.obj (encAttrMap a) = .obj (encAttrMap b) ↔ a = b :=
  inj_iff fun a b h => encAttrMap_inj a b (Json.obj.inj h)

theorem encValue_iff {a b : Value} : encValue a = encValue b ↔ a = b :=
  inj_iff fun ⟨n, t, m, al, ml⟩ ⟨n', t', m', al', ml'⟩ h => by
    simp only [encValue, obj_cons_inj, and_true, Json.str.injEq, Json.bool.injEq, encTy_iff] at h
    rw [h.1, h.2.1, h.2.2.1, h.2.2.2.1, h.2.2.2.2]

theorem encRVal_iff {a b : RVal} : encRVal a = encRVal b ↔ a = b :=
  inj_iff fun a b h => by
    cases a <;> cases b <;>
      simp only [encRVal, tag1_inj, String.reduceEq, false_and, true_and, Json.num.injEq,
        Int.natCast_inj] at h
    case prim.prim v w => rw [encPrimVal_inj v w h]
    case reg.reg r r' => rw [h]

theorem encRes_iff {a b : ExprResult} : encRes a = encRes b ↔ a = b :=
  inj_iff fun ⟨t, v⟩ ⟨t', v'⟩ h => by
    simp only [encRes, obj_cons_inj, and_true, encTy_iff, encRVal_iff] at h
    rw [h.1, h.2]

theorem encResL_iff {a b : List ExprResult} : encResL a = encResL b ↔ a = b :=
  inj_iff (listEnc_inj rfl (fun _ _ => rfl) fun _ _ => encRes_iff.1)

theorem encTyL_iff {a b : List Ty} : encTyL a = encTyL b ↔ a = b :=
  inj_iff (listEnc_inj rfl (fun _ _ => rfl) encTy_inj)

theorem encFunc_iff {a b : Func} : encFunc a = encFunc b ↔ a = b :=
  inj_iff fun ⟨n, t, ps⟩ ⟨n', t', ps'⟩ h => by
    simp only [encFunc, obj_cons_inj, and_true, Json.str.injEq, Json.arr.injEq, encTy_iff, encTyL_iff] at h
    rw [h.1, h.2.1, h.2.2]

theorem encCValSem_inj (a b : CVal) (h : encCValSem a = encCValSem b) : a = b := by
  cases a <;> cases b <;>
    simp only [encCValSem, tag1_inj, String.reduceEq, false_and, true_and, Json.str.injEq] at h
  case const.const n m => rw [h]
  case val.val v w => rw [encPrimVal_inj v w h]

theorem encCExprSem_inj : ∀ (a b : CExpr), encCExprSem a = encCExprSem b → a = b :=
  cexprEnc_inj (fun _ => rfl) (fun _ _ _ => rfl) encCValSem_inj

theorem encConstSem_iff {a b : ConstSem} : encConstSem a = encConstSem b ↔ a = b :=
  inj_iff fun ⟨n, t, v⟩ ⟨n', t', v'⟩ h => by
    simp only [encConstSem, obj_cons_inj, and_true, Json.str.injEq, encTy_iff] at h
    rw [h.1, h.2.1, encCExprSem_inj v v' h.2.2]

theorem encFuncParam_iff {a b : FuncParam} : encFuncParam a = encFuncParam b ↔ a = b :=
  inj_iff fun ⟨n, t⟩ ⟨n', t'⟩ h => by
    simp only [encFuncParam, obj_cons_inj, and_true, Json.str.injEq, encTy_iff] at h
    rw [h.1, h.2]

theorem encFuncParamL_iff {a b : List FuncParam} : encFuncParamL a = encFuncParamL b ↔ a = b :=
  inj_iff (listEnc_inj rfl (fun _ _ => rfl) fun _ _ => encFuncParam_iff.1)

theorem extTyCodeN_iff {a b : PrimTy} : encInstr.extTyCodeN a = encInstr.extTyCodeN b ↔ a = b :=
  inj_iff fun a b h => by
    have e (t : PrimTy) : encInstr.extTyCodeN t = t.ctorIdx := by cases t <;> rfl
    rw [← PrimTy.ofNat_ctorIdx a, ← e, h, e, PrimTy.ofNat_ctorIdx]

/-- the variant names of `SemanticStackContext`, in the order of the constructors of `Instr` -/
def instrTags : List String :=
  ["ExpressionValue", "ExpressionConst", "ExpressionStructValue", "ExpressionOperation", "Call", "LetBinding",
   "Binding", "FunctionDeclaration", "Constant", "Types", "ExpressionFunctionReturn",
   "ExpressionFunctionReturnWithLabel", "SetLabel", "JumpTo", "IfConditionExpression", "ConditionExpression",
   "JumpFunctionReturn", "LogicCondition", "IfConditionLogic", "FunctionArg", "ExtendedExpression"]

theorem instrTags_nodup : instrTags.Nodup := by
  simp only [instrTags, List.nodup_cons, List.mem_cons, List.not_mem_nil, String.reduceEq, or_self,
    not_false_eq_true, List.nodup_nil, and_self]

theorem encInstr_tag (a : Instr) : instrTags[a.ctorIdx]? = some (encInstr a).tag := by
  cases a <;> exact congrArg some (tag_obj _ _ _).symm

theorem encInstr_inj (a b : Instr) (h : encInstr a = encInstr b) : a = b := by
  have hc := idx_eq_of_name_eq instrTags_nodup encInstr_tag (congrArg Json.tag h)
  revert h
  cases a <;> apply Instr.ctorElim _ b hc <;> constructor <;> dsimp only <;> intros
  all_goals
    rename_i h
    simp only [encInstr, tag1_inj, true_and, obj_cons_inj, and_true, Json.num.injEq, Int.natCast_inj,
      Json.str.injEq, Json.arr.injEq, tag0_inj, encValue_iff, encConstSem_iff, encRes_iff, encResL_iff,
      encFunc_iff, encFuncParam_iff, encFuncParamL_iff, encTy_iff, encAttrMap_iff, Op.variant_iff,
      Cond.variant_iff, Logic.variant_iff, extTyCodeN_iff] at h
    simp only [h]

/-- C20, for instruction stacks -/
theorem encStack_inj (a b : List Instr) (h : encStack a = encStack b) : a = b :=
  listEnc_inj rfl (fun _ _ => rfl) encInstr_inj a b (Json.arr.inj h)

end SemVerif
