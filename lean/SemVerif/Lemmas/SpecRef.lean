import SemVerif.Lemmas.SpecTree
import SemVerif.Lemmas.BodySpec
/-!
# Lemmas/SpecRef — the source denotation does not depend on which precedence-tree function is used

`specStmts true` brackets chains with the independent reference tree (`specTree`), `specStmts false`
with the operator-stack fold; the two trees are equal (`specTree_eq_fold`), so the denotations are.
-/
namespace SemVerif

theorem buildTree_ref {α : Type} (a : α) (rest : List (Op × α)) : buildTree true a rest = buildTree false a rest := by
  unfold buildTree
  simp only [if_true, Bool.false_eq_true, if_false]
  exact specTree_eq_fold Generated.prio a rest

/-! `unfold` on one of these mutually recursive definitions makes Lean generate its equation lemmas,
which is slow; the cases the proofs need are stated here and hold by `rfl`. -/

theorem specExpr_def (ref : Bool) (s : SpecSt) (v : ExprValue) (rest : Option (Op × Expr)) :
    specExpr ref s (.mk v rest) = denTree (buildTree ref (specVal ref s v) (specRest ref s rest)) := rfl

theorem specRest_some (ref : Bool) (s : SpecSt) (o : Op) (v : ExprValue) (rest : Option (Op × Expr)) :
    specRest ref s (some (o, .mk v rest)) = (o, specVal ref s v) :: specRest ref s rest := rfl

theorem specVal_call (ref : Bool) (s : SpecSt) (f : Name) (args : List Expr) :
    specVal ref s (.call f args) =
      ((specArgs ref s args).1 ++ [.callS (.call f (specArgs ref s args).2)], .call f (specArgs ref s args).2) := rfl

theorem specArgs_cons (ref : Bool) (s : SpecSt) (e : Expr) (es : List Expr) :
    specArgs ref s (e :: es) =
      ((specExpr ref s e).1 ++ (specArgs ref s es).1, (specExpr ref s e).2 :: (specArgs ref s es).2) := rfl

theorem specLogic_none (ref : Bool) (s : SpecSt) (c : CmpCond) :
    specLogic ref s (.mk c none) =
      ((specExpr ref s c.left).1 ++ (specExpr ref s c.right).1,
       .cmp c.cond (specExpr ref s c.left).2 (specExpr ref s c.right).2) := rfl

theorem specLogic_some (ref : Bool) (s : SpecSt) (c : CmpCond) (lg : Logic) (rc : LogicCond) :
    specLogic ref s (.mk c (some (lg, rc))) =
      ((specExpr ref s c.left).1 ++ (specExpr ref s c.right).1 ++ (specLogic ref s rc).1,
       .logic lg (.cmp c.cond (specExpr ref s c.left).2 (specExpr ref s c.right).2) (specLogic ref s rc).2) := rfl

theorem specIf_def (ref : Bool) (g : RGlobals) (cond : IfCond) (body : IfBodies) (els : Option IfBodies)
    (elif : Option IfStmt) (s : SpecSt) :
    specIf ref g (.mk cond body els elif) s =
      match els, elif with
      | some eb, _ => (specBodies ref g eb (specBodies ref g body (specIfCond ref cond s.push)).pop.push).pop
      | none, some ei => specIf ref g ei (specBodies ref g body (specIfCond ref cond s.push)).pop
      | none, none => (specBodies ref g body (specIfCond ref cond s.push)).pop := by
  cases els with
  | some eb => rfl
  | none => cases elif <;> rfl

mutual
theorem specExpr_ref (s : SpecSt) : ∀ e, specExpr true s e = specExpr false s e
  | .mk v rest => by
    rw [specExpr_def, specExpr_def, buildTree_ref, specVal_ref s v, specRest_ref s rest]
theorem specRest_ref (s : SpecSt) : ∀ r, specRest true s r = specRest false s r
  | none => rfl
  | some (o, .mk v rest) => by
    rw [specRest_some, specRest_some, specVal_ref s v, specRest_ref s rest]
theorem specVal_ref (s : SpecSt) : ∀ v, specVal true s v = specVal false s v
  | .var x => rfl
  | .lit v => rfl
  | .call f args => by rw [specVal_call, specVal_call, specArgs_ref s args]
  | .field x a => rfl
  | .sub e => specExpr_ref s e
  | .ext tag ty => rfl
theorem specArgs_ref (s : SpecSt) : ∀ as, specArgs true s as = specArgs false s as
  | [] => rfl
  | e :: es => by rw [specArgs_cons, specArgs_cons, specExpr_ref s e, specArgs_ref s es]
end

theorem specLet_ref (g : RGlobals) (b : LetB) (s : SpecSt) : specLet true g b s = specLet false g b s := by
  unfold specLet; rw [specExpr_ref]

theorem specBind_ref (b : Bind) (s : SpecSt) : specBind true b s = specBind false b s := by
  unfold specBind; rw [specExpr_ref]

theorem specCallS_ref (c : CallS) (s : SpecSt) : specCallS true c s = specCallS false c s := by
  unfold specCallS; rw [specVal_ref]

theorem specLogic_ref (s : SpecSt) : ∀ lc, specLogic true s lc = specLogic false s lc
  | .mk c none => by rw [specLogic_none, specLogic_none, specExpr_ref, specExpr_ref]
  | .mk c (some (lg, rc)) => by
    rw [specLogic_some, specLogic_some, specExpr_ref, specExpr_ref, specLogic_ref s rc]

theorem specIfCond_ref (c : IfCond) (s : SpecSt) : specIfCond true c s = specIfCond false c s := by
  unfold specIfCond
  cases c with
  | single e => simp only [specExpr_ref]
  | logic lc => simp only [specLogic_ref]

theorem specJret_ref (e : Expr) (s : SpecSt) : specJret true rg e s = specJret false rg e s := by
  unfold specJret; rw [specExpr_ref]

theorem specRet_ref (e : Expr) (s : SpecSt) : specRet true e s = specRet false e s := by
  unfold specRet; rw [specExpr_ref]

theorem specN_ref (g : RGlobals) (st : NStmt) (s : SpecSt)
    (h : st.Sub (fun i => ∀ s, specIf true g i s = specIf false g i s)
      (fun l => ∀ s, specLoopBody true g l s = specLoopBody false g l s)) :
    specN true g st s = specN false g st s := by
  cases st with
  | letB b => exact specLet_ref g b s
  | bind b => exact specBind_ref b s
  | call c => exact specCallS_ref c s
  | ifS i => exact h s
  | loop l => exact congrArg SpecSt.pop (h s.push)
  | ret e => exact specJret_ref e s
  | brk => rfl
  | cont => rfl

theorem specRef_ind (g : RGlobals) : BodyInd
    (fun i => ∀ s, specIf true g i s = specIf false g i s)
    (fun b => ∀ s, specBodies true g b s = specBodies false g b s)
    (fun l => ∀ s, specIfBody true g l s = specIfBody false g l s)
    (fun l => ∀ s, specIfLoopBody true g l s = specIfLoopBody false g l s)
    (fun l => ∀ s, specLoopBody true g l s = specLoopBody false g l s) where
  ifS cond body els elif hbody hels helif s := by
    rw [specIf_def, specIf_def, specIfCond_ref, hbody]
    cases els with
    | some eb => exact congrArg SpecSt.pop (hels eb rfl _)
    | none =>
      cases elif with
      | some ei => exact helif ei rfl _
      | none => rfl
  ifb _ h := h
  loopb _ h := h
  ifNil _ := rfl
  ifCons st tl h ht s := by rw [specIfBody_cons, specIfBody_cons, ht, specN_ref g st.toN s h]
  ifLoopNil _ := rfl
  ifLoopCons st tl h ht s := by rw [specIfLoopBody_cons, specIfLoopBody_cons, ht, specN_ref g st.toN s h]
  loopNil _ := rfl
  loopCons st tl h ht s := by rw [specLoopBody_cons, specLoopBody_cons, ht, specN_ref g st.toN s h]

theorem specIf_ref (g : RGlobals) : ∀ i s, specIf true g i s = specIf false g i s :=
  (specRef_ind g).ifStmt

theorem specBodies_ref (g : RGlobals) : ∀ b s, specBodies true g b s = specBodies false g b s :=
  (specRef_ind g).bodies

theorem specIfBody_ref (g : RGlobals) : ∀ l s, specIfBody true g l s = specIfBody false g l s :=
  (specRef_ind g).ifBody

theorem specIfLoopBody_ref (g : RGlobals) : ∀ l s, specIfLoopBody true g l s = specIfLoopBody false g l s :=
  (specRef_ind g).ifLoopBody

theorem specLoopBody_ref (g : RGlobals) : ∀ l s, specLoopBody true g l s = specLoopBody false g l s :=
  (specRef_ind g).loopBody

theorem specBody_ref (g : RGlobals) : ∀ l s, specBody true g l s = specBody false g l s
  | [], _ => rfl
  | st :: tl, s => by
    rw [specBody_cons, specBody_cons, specBody_ref g tl]
    cases st.split with
    | inl n => exact congrArg _ (specN_ref g n s ((specRef_ind g).sub n))
    | inr e => exact congrArg _ (specRet_ref e s)

theorem specStmts_ref (g : RGlobals) (f : FnDecl) : specStmts true g f = specStmts false g f := by
  unfold specStmts; rw [specBody_ref]

end SemVerif
