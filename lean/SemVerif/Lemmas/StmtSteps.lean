import SemVerif.Lemmas.ExprSteps
import SemVerif.Lemmas.Names
import SemVerif.Lemmas.Body
import SemVerif.Lemmas.Frames
/-! # Lemmas/StmtSteps — let, parameters, control constructs and whole bodies are step chains
(`steps_functionBody`); `if_condition` and `loop_statement` as blocks around their bodies
(`ifCondition_split`, `around_loopWrap`) -/
namespace SemVerif

theorem esteps_letBinding (g : Globals) (b : LetB) (s : St) : ESteps s (letBinding g b s) := by
  unfold letBinding
  have h1 := em_exprM g b.value s
  cases he : exprM g b.value s with
  | mk a s1 =>
    rw [he] at h1
    cases a with
    | none => exact h1
    | some r =>
      dsimp only
      cases letTypeBad b.ty r.ty with
      | true => exact h1.tail (EStep.addErr _ _ _ _ _)
      | false =>
        simp only [Bool.false_eq_true, if_false]
        apply h1.tail
        have hfresh : s1.innerUsed (letInnerName s1 b.name) = false := by
          unfold letInnerName
          cases s1.lookupValue b.name <;> exact St.probeInner_fresh _ _
        exact EStep.declare s1 b.name ⟨letInnerName s1 b.name, r.ty, b.mutable, false, false⟩
          (.letBinding ⟨letInnerName s1 b.name, r.ty, b.mutable, false, false⟩ r) rfl rfl rfl rfl hfresh rfl

/-- while the parameters are registered the root block is the only block and its internal names
are the keys of its value table; so a parameter that is not yet in the table has a fresh internal
name, which `EStep.declare` asks for -/
def ParamInv (s : St) : Prop :=
  s.inner = [] ∧ ∀ n, n ∈ s.root.innerNames → (assocGet n s.root.values).isSome

theorem assocGet_insert_self {β : Type} (k : Name) (v : β) (l : List (Name × β)) :
    assocGet k (assocInsert k v l) = some v := by
  induction l with
  | nil => simp [assocInsert, assocGet]
  | cons x xs ih =>
    obtain ⟨k', v'⟩ := x
    unfold assocInsert
    split
    · simp [assocGet]
    · rename_i h; simp [assocGet, h, ih]

theorem assocGet_insert_ne {β : Type} (k k2 : Name) (v : β) (l : List (Name × β)) (h : k2 ≠ k) :
    assocGet k2 (assocInsert k v l) = assocGet k2 l := by
  induction l with
  | nil => simp [assocInsert, assocGet, h]
  | cons x xs ih =>
    obtain ⟨k', v'⟩ := x
    unfold assocInsert
    split
    · rename_i hk; subst hk; simp [assocGet, h]
    · simp [assocGet, ih]

theorem esteps_initParams : ∀ (ps : List (Name × ATy)) (s : St), ParamInv s → ESteps s (initParams ps s)
  | [], s, _ => ESteps.refl _
  | (n, t) :: rest, s, hinv => by
    unfold initParams
    obtain ⟨hin, hkeys⟩ := hinv
    cases hl : s.lookupValue n with
    | some v => exact ESteps.single (EStep.addErr _ _ _ _ _)
    | none =>
      dsimp only
      have hlook : assocGet n s.root.values = none := by
        simpa [St.lookupValue, St.frames, hin] using hl
      have hfresh : s.innerUsed n = false := by
        by_cases hc : n ∈ s.root.innerNames
        · have := hkeys n hc; rw [hlook] at this; simp at this
        · simp [St.innerUsed, St.frames, hin, hc]
      have hstep : EStep s (((s.insertValue n ⟨n, t.toTy, false, false, false⟩).registerInner n).push
          (.fnArg ⟨n, t.toTy, false, false, false⟩ ⟨n, t.toTy⟩)) :=
        EStep.declare s n ⟨n, t.toTy, false, false, false⟩ _ rfl rfl rfl rfl hfresh rfl
      refine (ESteps.single hstep).trans (esteps_initParams rest _ ⟨?_, ?_⟩)
      · simp [St.push, St.mapFrames, St.registerInner, St.insertValue, St.mapCur, hin]
      · intro m hm
        simp [St.push, St.mapFrames, St.registerInner, St.insertValue, St.mapCur, hin] at hm ⊢
        by_cases hmn : m = n
        · subst hmn; simp [assocGet_insert_self]
        · rw [assocGet_insert_ne _ _ _ _ hmn]
          apply hkeys
          unfold setInsert at hm
          split at hm
          · exact hm
          · simp at hm
            rcases hm with h | h
            · exact h
            · exact absurd h hmn

theorem paramInv_init : ParamInv St.init := by
  simp [ParamInv, St.init, Block.fresh]

theorem fsteps_probeLabel (stem : Name) (s : St) : FSteps s (s.probeLabel stem).2 := by
  have h := St.probeLabel_fresh s stem
  unfold St.probeLabel at h ⊢
  exact (FSteps.refl s).tail (FStep.regLabel s _ h)

/-! The pieces of `if_condition` and `loop_statement` around the bodies, as flat step chains with the
`enter` / `leave` between them made explicit. -/

theorem ifPrologue_split (g : Globals) (cond : IfCond) (dup isElse : Bool) (labelEnd : Option Name) (s : St) :
    ∃ s0, FSteps s s0 ∧ FSteps s0.enter (ifPrologue g cond dup isElse labelEnd s).2.2 := by
  unfold ifPrologue ifLabels
  dsimp only
  refine ⟨if dup then s.addErr .ifElseDuplicated "if-condition".toList 1 0 else s, ?_, ?_⟩
  · cases dup
    · exact FSteps.refl _
    · exact (FSteps.refl _).tail (FStep.e (EStep.addErr _ _ _ _ _))
  generalize (if dup then s.addErr .ifElseDuplicated "if-condition".toList 1 0 else s).enter = s1
  have h2 := fsteps_probeLabel "if_begin".toList s1
  generalize s1.probeLabel "if_begin".toList = p1 at h2
  obtain ⟨lb, s2⟩ := p1
  have h3 := h2.trans (fsteps_probeLabel "if_else".toList s2)
  generalize s2.probeLabel "if_else".toList = p2 at h3
  obtain ⟨le, s3⟩ := p2
  dsimp only at h3 ⊢
  cases labelEnd with
  | some l =>
    exact (h3.trans (esteps_ifCondCalc g cond lb le l isElse s3).toFSteps).tail (FStep.ctl _ _ rfl rfl rfl rfl)
  | none =>
    dsimp only
    have h4 := h3.trans (fsteps_probeLabel "if_end".toList s3)
    generalize s3.probeLabel "if_end".toList = p3 at h4
    obtain ⟨ln, s4⟩ := p3
    exact (h4.trans (esteps_ifCondCalc g cond lb le ln isElse s4).toFSteps).tail (FStep.ctl _ _ rfl rfl rfl rfl)

theorem ifAfterBody_split (isElse r : Bool) (lElse lEnd : Name) (s : St) :
    ∃ s0, FSteps s s0 ∧ ifAfterBody isElse r lElse lEnd s = s0.leave := by
  unfold ifAfterBody
  refine ⟨_, ?_, rfl⟩
  have h0 : FSteps s (if r then s else s.push (.jumpTo lEnd)) := by
    cases r
    · exact (FSteps.refl _).tail (FStep.ctl _ _ rfl rfl rfl rfl)
    · exact FSteps.refl _
  cases isElse
  · exact h0
  · exact h0.tail (FStep.ctl _ _ rfl rfl rfl rfl)

theorem fsteps_ifAfterElse (k : Nat) (r : Bool) (lEnd : Name) (s : St) : FSteps s.leave.2 (ifAfterElse k r lEnd s) := by
  unfold ifAfterElse
  cases r
  · exact (FSteps.refl _).tail (FStep.ctlVia _ _ _ rfl rfl rfl rfl)
  · exact FSteps.refl _

theorem fsteps_ifEpilogue (k : Nat) (labelEnd : Option Name) (lEnd : Name) (s : St) :
    FSteps s (ifEpilogue k labelEnd lEnd s) := by
  unfold ifEpilogue
  cases labelEnd
  · exact (FSteps.refl _).tail (FStep.ctlVia _ _ _ rfl rfl rfl rfl)
  · exact FSteps.refl _

theorem fsteps_loopPrologue (s : St) : FSteps s.enter (loopPrologue s).2.2 := by
  unfold loopPrologue
  dsimp only
  have h2 := fsteps_probeLabel "loop_begin".toList s.enter
  generalize s.enter.probeLabel "loop_begin".toList = p1 at h2
  obtain ⟨lb, s2⟩ := p1
  have h3 := h2.trans (fsteps_probeLabel "loop_end".toList s2)
  generalize s2.probeLabel "loop_end".toList = p2 at h3
  obtain ⟨le, s3⟩ := p2
  exact (h3.tail (FStep.ctl _ _ rfl rfl rfl rfl)).tail (FStep.ctl _ _ rfl rfl rfl rfl)

theorem loopEpilogue_split (r : Bool) (lb le : Name) (s : St) :
    ∃ s0, FSteps s s0 ∧ loopEpilogue r lb le s = s0.leave.2 := by
  unfold loopEpilogue
  refine ⟨_, ?_, rfl⟩
  cases r
  · exact ((FSteps.refl _).tail (FStep.ctl _ _ rfl rfl rfl rfl)).tail (FStep.ctl _ _ rfl rfl rfl rfl)
  · exact FSteps.refl _

theorem around_loopWrap (k : Name → Name → Bool → Bool → Bool → St → St × Bool) (s : St) :
    ∃ lb le s1, Around s s1 (k lb le false false false s1).1 (loopWrap k s) := by
  unfold loopWrap
  dsimp only
  have h1 := fsteps_loopPrologue s
  generalize loopPrologue s = p at h1
  obtain ⟨lb, le, s1⟩ := p
  refine ⟨lb, le, s1, ?_⟩
  generalize k lb le false false false s1 = q
  obtain ⟨s2, r⟩ := q
  obtain ⟨s2', h2, h3⟩ := loopEpilogue_split r lb le s2
  exact ⟨s, s2', FSteps.refl _, h1, h2, by rw [h3]; exact FSteps.refl _⟩

theorem ifCondition_split (g : Globals) (cond : IfCond) (body : IfBodies) (els : Option IfBodies) (elif : Option IfStmt)
    (labelEnd : Option Name) (labelLoop : Option (Name × Name)) (s : St) :
    ∃ lEnd s1 s3, Around s s1 (ifBodies g body lEnd labelLoop s1).1 s3 ∧
      match els, elif with
      | some eb, _ => ∃ s4, Around s3 s4 (ifBodies g eb lEnd labelLoop s4).1
          (ifCondition g (.mk cond body els elif) labelEnd labelLoop s)
      | none, some ei => FSteps (ifCondition g ei (some lEnd) labelLoop s3)
          (ifCondition g (.mk cond body els elif) labelEnd labelLoop s)
      | none, none => FSteps s3 (ifCondition g (.mk cond body els elif) labelEnd labelLoop s) := by
  rw [ifCondition]
  dsimp only
  obtain ⟨s0, h0, h1⟩ := ifPrologue_split g cond (els.isSome && elif.isSome) (els.isSome || elif.isSome) labelEnd s
  generalize ifPrologue g cond (els.isSome && elif.isSome) (els.isSome || elif.isSome) labelEnd s = p at h1 ⊢
  obtain ⟨lElse, lEnd, s1⟩ := p
  refine ⟨lEnd, s1, ?_⟩
  generalize ifBodies g body lEnd labelLoop s1 = q
  obtain ⟨s2, r⟩ := q
  obtain ⟨s2', h2, h3⟩ := ifAfterBody_split (els.isSome || elif.isSome) r lElse lEnd s2
  dsimp only
  rw [h3]
  refine ⟨s2'.leave.2, ⟨s0, s2', h0, h1, h2, FSteps.refl _⟩, ?_⟩
  cases els with
  | some eb =>
    exact ⟨_, _, _, FSteps.refl _, FSteps.refl _, FSteps.refl _,
      (fsteps_ifAfterElse _ _ lEnd _).trans (fsteps_ifEpilogue _ labelEnd lEnd _)⟩
  | none => cases elif <;> exact fsteps_ifEpilogue _ labelEnd lEnd _

theorem steps_ifPrologue (g : Globals) (cond : IfCond) (dup isElse : Bool) (labelEnd : Option Name) (s : St) :
    Steps s (ifPrologue g cond dup isElse labelEnd s).2.2 := by
  obtain ⟨s0, h0, h1⟩ := ifPrologue_split g cond dup isElse labelEnd s
  exact (h0.toSteps.tail (Step.enter _)).trans h1.toSteps

theorem steps_ifAfterBody (isElse r : Bool) (lElse lEnd : Name) (s : St) :
    Steps s (ifAfterBody isElse r lElse lEnd s).2 := by
  obtain ⟨s0, h0, h⟩ := ifAfterBody_split isElse r lElse lEnd s
  rw [h]
  exact h0.toSteps.tail (Step.leave _)

theorem steps_ifAfterElse (k : Nat) (r : Bool) (lEnd : Name) (s : St) : Steps s (ifAfterElse k r lEnd s) :=
  (Steps.single (Step.leave _)).trans (fsteps_ifAfterElse k r lEnd s).toSteps

theorem steps_loopEpilogue (r : Bool) (lb le : Name) (s : St) : Steps s (loopEpilogue r lb le s) := by
  obtain ⟨s0, h0, h⟩ := loopEpilogue_split r lb le s
  rw [h]
  exact h0.toSteps.tail (Step.leave _)

theorem steps_nestedReturn (g : Globals) (e : Expr) (s : St) : Steps s (nestedReturn g e s).1 := by
  obtain ⟨s1, h1, h | ⟨r, h⟩⟩ := esteps_nestedReturn_pre g e s
  · rw [h]; exact h1.toSteps
  · rw [h]
    exact (h1.toSteps.tail (Step.emitRet _ _ rfl rfl rfl rfl rfl)).tail (Step.setReturn _)

theorem steps_loopWrap (k : Name → Name → Bool → Bool → Bool → St → St × Bool)
    (hk : ∀ lb le rc bc cc s, Steps s (k lb le rc bc cc s).1) (s : St) : Steps s (loopWrap k s) := by
  obtain ⟨lb, le, s1, h⟩ := around_loopWrap k s
  exact h.steps (hk lb le false false false s1)

theorem steps_nStmt (g : Globals) (K : BodyK) (st : NStmt) (f : Flags) (s : St)
    (h : st.Sub (fun i => ∀ le ll s, Steps s (ifCondition g i le ll s))
      (fun l => ∀ lb le rc bc cc s, Steps s (loopBody g l lb le rc bc cc s).1)) :
    Steps s (nStmt g K st f s).1 := by
  unfold nStmt
  have h0 := (esteps_forbidden f.rc f.bc f.cc s).toSteps
  generalize forbidden f.rc f.bc f.cc s = s0 at h0
  cases st with
  | letB b => exact h0.trans (esteps_letBinding g b s0).toSteps
  | bind b => exact h0.trans (esteps_binding g b s0).toSteps
  | call c => exact h0.trans (esteps_callStmt g c s0).toSteps
  | ifS i => exact h0.trans (h _ _ s0)
  | loop l => exact h0.trans (steps_loopWrap _ h s0)
  | ret e => exact h0.trans (steps_nestedReturn g e s0)
  | brk => exact h0.tail (Step.ctl _ _ rfl rfl rfl rfl)
  | cont => exact h0.tail (Step.ctl _ _ rfl rfl rfl rfl)

theorem steps_ind (g : Globals) : BodyInd
    (fun i => ∀ le ll s, Steps s (ifCondition g i le ll s))
    (fun b => ∀ lEnd ll s, Steps s (ifBodies g b lEnd ll s).1)
    (fun l => ∀ lEnd ll rc s, Steps s (ifBody g l lEnd ll rc s).1)
    (fun l => ∀ lEnd lb le rc bc cc s, Steps s (ifLoopBody g l lEnd lb le rc bc cc s).1)
    (fun l => ∀ lb le rc bc cc s, Steps s (loopBody g l lb le rc bc cc s).1) where
  ifS cond body els elif hbody hels helif labelEnd labelLoop s := by
    obtain ⟨lEnd, s1, s3, h1, h2⟩ := ifCondition_split g cond body els elif labelEnd labelLoop s
    have h3 := h1.steps (hbody lEnd labelLoop s1)
    cases els with
    | some eb =>
      obtain ⟨s4, h2⟩ := h2
      exact h3.trans (h2.steps (hels eb rfl lEnd labelLoop s4))
    | none =>
      cases elif with
      | some ei => exact (h3.trans (helif ei rfl (some lEnd) labelLoop s3)).trans h2.toSteps
      | none => exact h3.trans h2.toSteps
  ifb l h lEnd ll s := h lEnd ll false s
  loopb l h lEnd ll s := by
    rcases ll with _ | ⟨lb, le⟩
    · exact Steps.single (Step.setPanic s _)
    · exact h lEnd lb le false false false s
  ifNil _ _ _ s := Steps.refl s
  ifCons st tl h ht lEnd ll rc s := by
    rw [ifBody_cons]
    exact (steps_nStmt g _ st.toN _ s h).trans (ht lEnd ll _ _)
  ifLoopNil _ _ _ _ _ _ s := Steps.refl s
  ifLoopCons st tl h ht lEnd lb le rc bc cc s := by
    rw [ifLoopBody_cons]
    exact (steps_nStmt g _ st.toN _ s h).trans (ht lEnd lb le _ _ _ _)
  loopNil _ _ _ _ _ s := Steps.refl s
  loopCons st tl h ht lb le rc bc cc s := by
    rw [loopBody_cons]
    exact (steps_nStmt g _ st.toN _ s h).trans (ht lb le _ _ _ _)

theorem steps_ifCondition (g : Globals) : ∀ (i : IfStmt) (le : Option Name) (ll : Option (Name × Name)) (s : St),
    Steps s (ifCondition g i le ll s) :=
  (steps_ind g).ifStmt
theorem steps_ifBodies (g : Globals) : ∀ (b : IfBodies) (lEnd : Name) (ll : Option (Name × Name)) (s : St),
    Steps s (ifBodies g b lEnd ll s).1 :=
  (steps_ind g).bodies
theorem steps_ifBody (g : Globals) : ∀ (l : List IfBodyStmt) (lEnd : Name) (ll : Option (Name × Name)) (rc : Bool) (s : St),
    Steps s (ifBody g l lEnd ll rc s).1 :=
  (steps_ind g).ifBody
theorem steps_ifLoopBody (g : Globals) : ∀ (l : List IfLoopStmt) (lEnd lb le : Name) (rc bc cc : Bool) (s : St),
    Steps s (ifLoopBody g l lEnd lb le rc bc cc s).1 :=
  (steps_ind g).ifLoopBody
theorem steps_loopBody (g : Globals) : ∀ (l : List LoopStmt) (lb le : Name) (rc bc cc : Bool) (s : St),
    Steps s (loopBody g l lb le rc bc cc s).1 :=
  (steps_ind g).loopBody

theorem steps_nStmt' (g : Globals) (K : BodyK) (st : NStmt) (f : Flags) (s : St) : Steps s (nStmt g K st f s).1 :=
  steps_nStmt g K st f s ((steps_ind g).sub st)

theorem esteps_checkTypeExists (g : Globals) (t : Ty) (n : Name) (s : St) : ESteps s (checkTypeExists g t n s).2 := by
  unfold checkTypeExists
  split
  · exact ESteps.refl _
  · split
    · exact ESteps.refl _
    · exact ESteps.single (EStep.addErr _ _ _ _ _)

theorem steps_fnReturnTail (g : Globals) (resTy : Ty) (e : Expr) (r : ExprResult) (s : St) :
    Steps s (fnReturnTail g resTy e r s) := by
  unfold fnReturnTail
  dsimp only
  have h3 := esteps_checkTypeExists g r.ty e.show s
  generalize (checkTypeExists g r.ty e.show s).2 = s3 at h3
  have h4 : ESteps s (if resTy ≠ r.ty then s3.addErr .wrongReturnType e.show 1 0 else s3) := by
    split
    · exact h3.tail (EStep.addErr _ _ _ _ _)
    · exact h3
  generalize (if resTy ≠ r.ty then s3.addErr .wrongReturnType e.show 1 0 else s3) = s4 at h4
  split
  · exact h4.toSteps.tail (Step.emitRet _ _ rfl rfl rfl rfl rfl)
  · exact h4.toSteps.tail (Step.emitRet _ _ rfl rfl rfl rfl rfl)

theorem fnReturn_split (g : Globals) (resTy : Ty) (e : Expr) (rc : Bool) (s : St) :
    ∃ s2, ESteps s s2 ∧ (fnReturn g resTy e rc s = (s2, rc) ∨
      ∃ r, fnReturn g resTy e rc s =
        (if s2.cur.manualReturn then s2.push (.fnReturnWithLabel r) else s2.push (.fnReturn r), true)) := by
  unfold fnReturn
  have h1 := em_exprM g e s
  cases he : exprM g e s with
  | mk a s1 =>
    rw [he] at h1
    dsimp only
    have h2 : ESteps s (if rc then s1.addErr .returnAlreadyCalled e.show 1 0 else s1) := by
      cases rc
      · exact h1
      · exact h1.tail (EStep.addErr _ _ _ _ _)
    generalize (if rc then s1.addErr .returnAlreadyCalled e.show 1 0 else s1) = s2 at h2
    cases a with
    | none => exact ⟨s2, h2, Or.inl rfl⟩
    | some r =>
      dsimp only
      unfold fnReturnTail
      dsimp only
      have h3 := h2.trans (esteps_checkTypeExists g r.ty e.show s2)
      generalize (checkTypeExists g r.ty e.show s2).2 = s3 at h3
      have h4 : ESteps s (if resTy ≠ r.ty then s3.addErr .wrongReturnType e.show 1 0 else s3) := by
        split
        · exact h3.tail (EStep.addErr _ _ _ _ _)
        · exact h3
      exact ⟨_, h4, Or.inr ⟨r, rfl⟩⟩

theorem steps_fnReturn (g : Globals) (resTy : Ty) (e : Expr) (rc : Bool) (s : St) :
    Steps s (fnReturn g resTy e rc s).1 := by
  obtain ⟨s2, h2, h | ⟨r, h⟩⟩ := fnReturn_split g resTy e rc s
  · rw [h]
    exact h2.toSteps
  · rw [h]
    split
    · exact h2.toSteps.tail (Step.emitRet _ _ rfl rfl rfl rfl rfl)
    · exact h2.toSteps.tail (Step.emitRet _ _ rfl rfl rfl rfl rfl)

theorem steps_bodyStmts (g : Globals) (resTy : Ty) : ∀ (l : List BodyStmt) (rc : Bool) (s : St),
    Steps s (bodyStmts g resTy l rc s).1
  | [], _, s => Steps.refl s
  | st :: tl, rc, s => by
    rw [bodyStmts_cons]
    cases st.split with
    | inl n => exact (steps_nStmt' g _ n _ s).trans (steps_bodyStmts g resTy tl _ _)
    | inr e =>
      exact ((esteps_forbidden rc false false s).toSteps.trans (steps_fnReturn g resTy e rc _)).trans
        (steps_bodyStmts g resTy tl _ _)

theorem steps_loopStmt (g : Globals) (body : List LoopStmt) (s : St) : Steps s (loopStmt g body s) :=
  steps_loopWrap _ (steps_loopBody g body) s

theorem steps_functionBody (g : Globals) (f : FnDecl) : Steps St.init (functionBody g f) := by
  unfold functionBody
  dsimp only
  have h1 := (esteps_initParams f.params St.init paramInv_init).toSteps
  generalize initParams f.params St.init = s1 at h1
  have h2 := h1.trans (steps_bodyStmts g f.result.toTy f.body false s1)
  generalize bodyStmts g f.result.toTy f.body false s1 = q at h2
  obtain ⟨s2, rc⟩ := q
  cases rc
  · exact h2.tail (Step.e (EStep.addErr _ _ _ _ _))
  · exact h2

theorem forbidden_len (rc bc cc : Bool) (s : St) : (forbidden rc bc cc s).inner.length = s.inner.length :=
  (esteps_forbidden rc bc cc s).inner_len

theorem nestedReturn_len {g : Globals} (e : Expr) (s : St) : (nestedReturn g e s).1.inner.length = s.inner.length := by
  obtain ⟨s1, h1, h | ⟨r, h⟩⟩ := esteps_nestedReturn_pre g e s
  · rw [h]; exact h1.inner_len
  · rw [h]; exact ((inner_len_mapFrames _ _).trans (inner_len_mapFrames _ s1)).trans h1.inner_len

theorem inner_ne_of_len {s : St} {n : Nat} (h : s.inner.length = n + 1) : s.inner ≠ [] := by
  intro hn; rw [hn] at h; exact Nat.noConfusion h

end SemVerif
