import SemVerif.Lemmas.T1Expr
import SemVerif.Lemmas.StmtSteps
import SemVerif.Lemmas.BodySpec
/-!
# Lemmas/T1Stmt — verdict simulation (family T1), statement level

`StmtSim s s' rs rs' post`: the checker appended some `Δ`; either `Δ` holds nothing enforced, the
analyzer reported nothing and `post` holds, or both failed with matching first error (`Fail`).  After a
failure nothing is claimed, so sequencing (`StmtSim.seq`) needs of the later steps only that both sides
append: `Steps.errors_ext` for the analyzer, `RExt` for the checker (`rext_ind : BodyInd …`).
-/
namespace SemVerif

def RExt (rs rs' : RS) : Prop := ∃ Δ, rs'.viols = rs.viols ++ Δ

theorem RExt.refl (rs : RS) : RExt rs rs := ⟨[], (List.append_nil _).symm⟩

theorem RExt.trans {a b c : RS} (h1 : RExt a b) (h2 : RExt b c) : RExt a c := by
  obtain ⟨d1, h1⟩ := h1
  obtain ⟨d2, h2⟩ := h2
  exact ⟨d1 ++ d2, by rw [h2, h1, List.append_assoc]⟩

theorem rext_add (vs : List Viol) (rs : RS) : RExt rs (rs.add vs) := ⟨vs, rfl⟩

theorem rext_viol (r : String) (k : ErrKind) (n : Name) (rs : RS) : RExt rs (rs.viol r k n) := ⟨_, rfl⟩

theorem rext_push (rs : RS) : RExt rs rs.push := RExt.refl rs

theorem rext_pop (rs : RS) : RExt rs rs.pop := RExt.refl rs

theorem rext_scope (rs : RS) (sc : Scope) : RExt rs { rs with scope := sc } := RExt.refl rs

theorem RExt.ite {rs a b : RS} {p : Prop} [Decidable p] (ha : RExt rs a) (hb : RExt rs b) :
    RExt rs (if p then a else b) := by
  split <;> assumption

theorem rext_optAdd (p : Prop) [Decidable p] (vs : List Viol) (rs : RS) : RExt rs (if p then rs.add vs else rs) :=
  .ite (rext_add vs rs) (RExt.refl rs)

def StmtSim (s s' : St) (rs rs' : RS) (post : Prop) : Prop :=
  ∃ Δ, rs'.viols = rs.viols ++ Δ ∧ ((firstEnf Δ = none ∧ s'.errors = s.errors ∧ post) ∨ Fail s s' Δ)

theorem StmtSim.rext {s s' : St} {rs rs' : RS} {P : Prop} (h : StmtSim s s' rs rs' P) : RExt rs rs' := by
  obtain ⟨Δ, h, _⟩ := h; exact ⟨Δ, h⟩

theorem StmtSim.refl (s : St) (rs : RS) {P : Prop} (hp : P) : StmtSim s s rs rs P :=
  ⟨[], (List.append_nil _).symm, Or.inl ⟨rfl, rfl, hp⟩⟩

theorem StmtSim.of_eq {s s1 s2 : St} {rs rs1 rs2 : RS} {P Q : Prop} (h : StmtSim s s1 rs rs1 P)
    (he : s2.errors = s1.errors) (hv : rs2.viols = rs1.viols) (hq : P → Q) : StmtSim s s2 rs rs2 Q := by
  obtain ⟨Δ, hΔ, h⟩ := h
  exact ⟨Δ, hv.trans hΔ, h.imp (fun ⟨a, b, c⟩ => ⟨a, he.trans b, hq c⟩) fun hf => hf.silent he⟩

theorem StmtSim.weaken {s s' : St} {rs rs' : RS} {P Q : Prop} (h : StmtSim s s' rs rs' P) (hpq : P → Q) :
    StmtSim s s' rs rs' Q :=
  h.of_eq rfl rfl hpq

theorem sim_afterExpr {s s1 s' : St} {rs : RS} {vs : List Viol} (hs : ScopeRel s rs.scope)
    (h : firstEnf vs = none ∧ s1.errors = s.errors ∧ SameVals s s1 ∨ Fail s s1 vs)
    (he : s'.errors = s1.errors) (hv : s'.vals = s1.vals) :
    StmtSim s s' rs (rs.add vs) (ScopeRel s' (rs.add vs).scope) :=
  ⟨vs, rfl, h.imp (fun h => ⟨h.1, he.trans h.2.1, scopeRel_of_sameVals hs (hv.trans h.2.2)⟩) fun hf => hf.silent he⟩

/-- sequencing: the second step is only constrained when the first succeeded; otherwise both sides
merely append -/
theorem StmtSim.seq {s s1 s2 : St} {rs rs1 rs2 : RS} {P Q : Prop}
    (h1 : StmtSim s s1 rs rs1 P) (h2 : P → StmtSim s1 s2 rs1 rs2 Q)
    (ma : ∃ Δ, s2.errors = s1.errors ++ Δ) (mc : RExt rs1 rs2) : StmtSim s s2 rs rs2 Q := by
  obtain ⟨Δ1, hΔ1, h1⟩ := h1
  rcases h1 with ⟨hv1, he1, hp⟩ | hf
  · obtain ⟨Δ2, hΔ2, h2⟩ := h2 hp
    refine ⟨Δ1 ++ Δ2, by rw [hΔ2, hΔ1, List.append_assoc], ?_⟩
    rcases h2 with ⟨hv2, he2, hq⟩ | hf2
    · exact Or.inl ⟨by rw [firstEnf_append_none hv1]; exact hv2, he2.trans he1, hq⟩
    · exact Or.inr (Fail.prepend hv1 he1 hf2)
  · obtain ⟨Δ2, hΔ2⟩ := mc
    exact ⟨Δ1 ++ Δ2, by rw [hΔ2, hΔ1, List.append_assoc], Or.inr ((hf.ext ma).append Δ2)⟩

theorem sim_err (s : St) (rs : RS) (k : ErrKind) (n : Name) (l o : Nat) (r : String) (P : Prop) :
    StmtSim s (s.addErr k n l o) rs (rs.viol r k n) P :=
  ⟨_, rfl, Or.inr (Fail.of_addErr ..)⟩

theorem StmtSim.thenErr {s s1 : St} {rs rs1 : RS} {P : Prop} (h : StmtSim s s1 rs rs1 P) (k : ErrKind) (n : Name)
    (l o : Nat) (r : String) (Q : Prop) : StmtSim s (s1.addErr k n l o) rs (rs1.viol r k n) Q :=
  h.seq (fun _ => sim_err ..) ⟨_, rfl⟩ (rext_viol ..)

/-- a note of the checker that the analyzer does not enforce -/
theorem StmtSim.optNote {s s1 : St} {rs rs1 : RS} {P : Prop} (h : StmtSim s s1 rs rs1 P) (p : Prop) [Decidable p]
    (v : Viol) (hv : v.enforced = false) : StmtSim s s1 rs (if p then rs1.add [v] else rs1) P := by
  split
  · exact h.seq (fun hp => ⟨[v], rfl, .inl ⟨firstEnf_single_unenf v hv, rfl, hp⟩⟩) (errors_ext_of_eq rfl) (rext_add ..)
  · exact h

theorem scope_optAdd (p : Prop) [Decidable p] (vs : List Viol) (rs : RS) : (if p then rs.add vs else rs).scope = rs.scope := by
  split <;> rfl

theorem vals_enter (s : St) : s.enter.vals = [] :: s.vals := by
  unfold St.vals; rw [frames_enter]; rfl

theorem vals_leave (s : St) (h : s.inner ≠ []) : s.leave.2.vals = s.vals.tail := by
  unfold St.vals St.leave St.frames
  cases hi : s.inner with
  | nil => exact absurd hi h
  | cons b rest => cases rest <;> rfl

theorem vals_probeLabel (stem : Name) (s : St) : (s.probeLabel stem).2.vals = s.vals := by
  unfold St.probeLabel
  apply vals_mapFrames
  intro b
  rfl

theorem vals_setReturn (s : St) : s.setReturn.vals = s.vals := by
  unfold St.setReturn
  apply vals_mapFrames
  intro b
  rfl

theorem vals_registerInner (n : Name) (s : St) : (s.registerInner n).vals = s.vals := by
  unfold St.registerInner
  apply vals_mapFrames
  intro b
  rfl

theorem vals_mapCur (f : Block → Block) (φ : List (Name × Value) → List (Name × Value))
    (hf : ∀ b, (f b).values = φ b.values) (s : St) :
    ∃ x rest, s.vals = x :: rest ∧ (s.mapCur f).vals = φ x :: rest := by
  unfold St.vals St.mapCur St.frames
  cases s.inner with
  | nil => exact ⟨_, [], rfl, congrArg (· :: []) (hf _)⟩
  | cons b bs => exact ⟨_, _, rfl, congrArg (· :: _) (hf b)⟩

theorem vals_insertValue (n : Name) (v : Value) (s : St) :
    ∃ x rest, s.vals = x :: rest ∧ (s.insertValue n v).vals = assocInsert n v x :: rest :=
  vals_mapCur _ (assocInsert n v) (fun _ => rfl) s

theorem vals_pushVia (k : Nat) (i : Instr) (s : St) : (s.pushVia k i).vals = s.vals := by
  unfold St.pushVia
  obtain ⟨x, rest, h1, h2⟩ := vals_mapCur (fun b =>
    { b with children := modifyNth (fun c => { c with context := c.context ++ [i] }) k b.children }) id (fun _ => rfl) s
  rw [vals_push, h2, h1]; rfl

theorem vals_setPanic (site : Nat) (s : St) : (s.setPanic site).vals = s.vals := by
  unfold St.setPanic; cases s.panic <;> rfl

theorem scopeRel_enter {s : St} {sc : Scope} (h : ScopeRel s sc) : ScopeRel s.enter ([] :: sc) := by
  unfold ScopeRel; rw [vals_enter]
  exact ValsRel.cons (fun _ => rfl) h

theorem scopeRel_tail {vs : List (List (Name × Value))} {sc : Scope} (h : ValsRel vs sc) : ValsRel vs.tail sc.tail := by
  cases h with
  | nil => exact ValsRel.nil
  | cons _ h => exact h

theorem valsRel_declare {x : List (Name × Value)} {rest : List (List (Name × Value))} {sc : Scope}
    (h : ValsRel (x :: rest) sc) (n : Name) (v : Value) :
    ValsRel (assocInsert n v x :: rest) (sc.declare n v.ty v.mutable) := by
  cases h with
  | @cons vals fr rest sc' hfr hrest =>
    refine ValsRel.cons (fun k => ?_) hrest
    show _ = if k = n then some (v.ty, v.mutable) else rlookup k fr
    by_cases hk : k = n
    · rw [if_pos hk, hk, assocGet_insert_self]; rfl
    · rw [if_neg hk, assocGet_insert_ne _ _ _ _ hk]; exact hfr k

theorem scopeRel_declare {s : St} {sc : Scope} (h : ScopeRel s sc) (n inner : Name) (v : Value) (i : Instr) :
    ScopeRel (((s.insertValue n v).registerInner inner).push i) (sc.declare n v.ty v.mutable) := by
  unfold ScopeRel
  obtain ⟨x, rest, hx, hins⟩ := vals_insertValue n v s
  rw [vals_push, vals_registerInner, hins]
  exact valsRel_declare (hx ▸ h) n v

theorem sim_let {g : Globals} {rg : RGlobals} (hg : GlobRel g rg) (b : LetB) (s : St) (rs : RS)
    (hs : ScopeRel s rs.scope) :
    StmtSim s (letBinding g b s) rs (checkLet rg b rs) (ScopeRel (letBinding g b s) (checkLet rg b rs).scope) := by
  have h1 := exprSim_iff.1 (sim_exprM hg rs.scope b.value) s hs
  unfold letBinding checkLet
  generalize exprM g b.value s = p at h1 ⊢
  generalize checkExpr rg rs.scope b.value = c at h1 ⊢
  cases h1 with
  | @fail a s1 vs hf =>
    refine ⟨vs, rfl, .inr ?_⟩
    cases a with
    | none => exact hf
    | some r => exact Fail.ite (hf.addErr ..) (hf.silent (errors_declare ..))
  | @ok r s1 vs hv he hvals =>
    have hA : StmtSim s s1 rs (rs.add vs) (ScopeRel s1 rs.scope) :=
      ⟨vs, rfl, .inl ⟨hv, he, scopeRel_of_sameVals hs hvals⟩⟩
    dsimp only
    cases letTypeBad b.ty r.ty with
    | true => exact hA.thenErr ..
    | false => exact hA.of_eq (errors_declare ..) rfl fun h => scopeRel_declare h ..

theorem sim_bind {g : Globals} {rg : RGlobals} (hg : GlobRel g rg) (b : Bind) (s : St) (rs : RS)
    (hs : ScopeRel s rs.scope) :
    StmtSim s (binding g b s) rs (checkBind rg b rs) (ScopeRel (binding g b s) (checkBind rg b rs).scope) := by
  have h1 := exprSim_iff.1 (sim_exprM hg rs.scope b.value) s hs
  unfold binding checkBind
  generalize exprM g b.value s = p at h1 ⊢
  generalize checkExpr rg rs.scope b.value = c at h1 ⊢
  cases h1 with
  | @fail a s1 vs hf =>
    refine ⟨vs, rfl, .inr ?_⟩
    cases a with
    | none => exact hf
    | some r =>
      dsimp only
      cases s1.lookupValue b.name with
      | none => exact hf.addErr ..
      | some value => exact Fail.ite (hf.addErr ..) (.ite (hf.addErr ..) (hf.silent rfl))
  | @ok r s1 vs hv he hvals =>
    have hs1 : ScopeRel s1 rs.scope := scopeRel_of_sameVals hs hvals
    have hA : StmtSim s s1 rs (rs.add vs) (ScopeRel s1 rs.scope) := ⟨vs, rfl, .inl ⟨hv, he, hs1⟩⟩
    dsimp only
    rw [show (rs.add vs).scope = rs.scope from rfl, ← scopeRel_lookup hs1 b.name]
    cases s1.lookupValue b.name with
    | none => exact hA.thenErr ..
    | some value =>
      dsimp only [Option.map_some, projV]
      cases value.mutable with
      | false => exact hA.thenErr ..
      | true =>
        by_cases hty : value.ty ≠ r.ty
        · simp only [Bool.not_true, Bool.false_eq_true, if_false, if_pos hty]
          exact hA.thenErr ..
        · simp only [Bool.not_true, Bool.false_eq_true, if_false, if_neg hty]
          exact hA.of_eq rfl rfl fun h => by unfold ScopeRel; rw [vals_push]; exact h

theorem sim_callS {g : Globals} {rg : RGlobals} (hg : GlobRel g rg) (c : CallS) (s : St) (rs : RS)
    (hs : ScopeRel s rs.scope) :
    StmtSim s (callStmt g c s) rs (checkCallS rg c rs) (ScopeRel (callStmt g c s) (checkCallS rg c rs).scope) := by
  unfold callStmt checkCallS
  rw [argsM_eq, checkExprs_eq]
  have h1 := sim_functionCall hg c.name (c.args.map fun e => (exprM g e, checkExpr rg rs.scope e)) (fun x hx => by
    obtain ⟨e, _, rfl⟩ := List.mem_map.1 hx
    exact ⟨sim_exprM hg rs.scope e, em_exprM g e⟩) s hs
  simp only [List.map_map, Function.comp_def] at h1
  refine ⟨_, rfl, ?_⟩
  generalize checkCall rg c.name (c.args.map (checkExpr rg rs.scope)) = cc at h1 ⊢
  obtain ⟨vs, to⟩ := cc
  cases to with
  | none => exact .inr h1
  | some ty => exact .inl ⟨h1.1, h1.2.2.1, scopeRel_of_sameVals hs h1.2.2.2⟩

theorem sim_optErr (b : Bool) (s : St) (rs : RS) (k : ErrKind) (n : Name) (l o : Nat) (r : String)
    (hs : ScopeRel s rs.scope) :
    StmtSim s (if b then s.addErr k n l o else s) rs (if b then rs.viol r k n else rs)
      (ScopeRel (if b then s.addErr k n l o else s) (if b then rs.viol r k n else rs).scope) := by
  cases b
  · exact StmtSim.refl s rs hs
  · exact sim_err s rs k n l o r _

theorem optErr_ext (b : Bool) (s : St) (k : ErrKind) (n : Name) (l o : Nat) :
    ∃ Δ, (if b then s.addErr k n l o else s).errors = s.errors ++ Δ :=
  errors_ext_ite id ⟨_, rfl⟩ (errors_ext_of_eq rfl)

theorem optViol_ext (b : Bool) (rs : RS) (k : ErrKind) (n : Name) (r : String) :
    RExt rs (if b then rs.viol r k n else rs) := rext_optAdd _ _ rs

theorem sim_forbidden (rc bc cc : Bool) (s : St) (rs : RS) (hs : ScopeRel s rs.scope) :
    StmtSim s (forbidden rc bc cc s) rs (codeAfter rc bc cc rs)
      (ScopeRel (forbidden rc bc cc s) (codeAfter rc bc cc rs).scope) :=
  ((sim_optErr rc s rs _ _ 1 1 "B13-return" hs).seq (fun h => sim_optErr bc _ _ _ _ 1 1 "B13-break" h)
    (optErr_ext ..) (optViol_ext ..)).seq (fun h => sim_optErr cc _ _ _ _ 1 1 "B13-continue" h)
    (optErr_ext ..) (optViol_ext ..)

theorem sim_nestedRet {g : Globals} {rg : RGlobals} (hg : GlobRel g rg) (resTy : Ty) (e : Expr) (s : St) (rs : RS)
    (hs : ScopeRel s rs.scope) :
    StmtSim s (nestedReturn g e s).1 rs (checkNestedRet rg resTy e rs).1
      (ScopeRel (nestedReturn g e s).1 (checkNestedRet rg resTy e rs).1.scope ∧
        (nestedReturn g e s).2 = (checkNestedRet rg resTy e rs).2) := by
  have h1 := exprSim_iff.1 (sim_exprM hg rs.scope e) s hs
  unfold nestedReturn checkNestedRet
  generalize exprM g e s = p at h1 ⊢
  generalize checkExpr rg rs.scope e = c at h1 ⊢
  cases h1 with
  | @fail a s1 vs hf =>
    refine ⟨vs, rfl, .inr ?_⟩
    cases a with
    | none => exact hf
    | some r => exact hf.silent rfl
  | @ok r s1 vs hv he hvals =>
    have hA : StmtSim s s1 rs (rs.add vs) (ScopeRel s1 rs.scope) :=
      ⟨vs, rfl, .inl ⟨hv, he, scopeRel_of_sameVals hs hvals⟩⟩
    -- both notes on the return type are unenforced (finding F9)
    refine ((hA.optNote _ _ rfl).optNote _ _ rfl).of_eq rfl rfl fun h => ⟨?_, rfl⟩
    dsimp only
    rw [scope_optAdd, scope_optAdd]
    unfold ScopeRel; rw [vals_setReturn, vals_push]; exact h

theorem condExprM_ext2 (g : Globals) (c : CmpCond) (right : Option (Logic × LogicCond)) (s : St)
    {a b : Option ExprResult} {s1 s2 : St} (h1 : exprM g c.left s = (a, s1)) (h2 : exprM g c.right s1 = (b, s2)) :
    ∃ Δ, (condExprM g (.mk c right) s).2.errors = s2.errors ++ Δ := by
  unfold condExprM
  rw [h1]; dsimp only; rw [h2]; dsimp only
  cases a with
  | none => exact ⟨_, rfl⟩
  | some l =>
    cases b with
    | none => exact ⟨_, rfl⟩
    | some r =>
      refine errors_ext_ite Prod.snd ⟨_, rfl⟩ (errors_ext_ite Prod.snd ⟨_, rfl⟩ ?_)
      cases right with
      | none => exact errors_ext_of_eq rfl
      | some p =>
        obtain ⟨lg, rc⟩ := p
        have h3 := (esteps_condExprM g rc ((s2.incReg).push (.condExpr l r c.cond s2.incReg.curReg))).errors_ext
        dsimp only
        generalize condExprM g rc ((s2.incReg).push (.condExpr l r c.cond s2.incReg.curReg)) = res at h3 ⊢
        exact h3

theorem logicCond_induction {P : LogicCond → Prop}
    (mk : ∀ c right, (∀ lg rc, right = some (lg, rc) → P rc) → P (.mk c right)) : ∀ lc, P lc
  | .mk c none => mk c none fun _ _ h => nomatch h
  | .mk c (some (lg, rc)) => mk c _ fun _ _ h => by cases h; exact logicCond_induction mk rc

theorem sim_logic {g : Globals} {rg : RGlobals} (hg : GlobRel g rg) (sc : Scope) : ∀ (lc : LogicCond) (s : St),
    ScopeRel s sc →
    (firstEnf (checkLogic rg sc lc) = none ∧ (condExprM g lc s).2.errors = s.errors ∧ SameVals s (condExprM g lc s).2) ∨
    Fail s (condExprM g lc s).2 (checkLogic rg sc lc) := by
  intro lc
  induction lc using logicCond_induction with
  | mk c right ih =>
    intro s hs
    have h1 := exprSim_iff.1 (sim_exprM hg sc c.left) s hs
    cases hp1 : exprM g c.left s with | mk a s1 =>
    cases hp2 : exprM g c.right s1 with | mk b s2 =>
    have hx := condExprM_ext2 g c right s hp1 hp2
    have h2 := fun hs1 => exprSim_iff.1 (sim_exprM hg sc c.right) s1 hs1
    have hr := (em_exprM g c.right).errors_ext s1
    rw [hp1] at h1
    rw [hp2] at h2 hr
    -- one copy of each side's continuation, in `hres` and `hws`
    generalize hres : condExprM g (.mk c right) s = res at hx ⊢
    generalize hws : checkLogic rg sc (.mk c right) = ws
    unfold checkLogic at hws
    generalize checkExpr rg sc c.left = c1 at h1 hws
    generalize checkExpr rg sc c.right = c2 at h2 hws
    obtain ⟨vr, tr⟩ := c2
    cases h1 with
    | fail hf =>
      -- the right side is evaluated all the same; then the condition counts as empty
      dsimp only at hws; subst hws
      rw [List.append_assoc]
      exact .inr (((hf.ext hr).ext hx).append _)
    | @ok l _ vl hvl hle hlv =>
      cases h2 (scopeRel_of_sameVals hs hlv) with
      | fail hf =>
        dsimp only at hws; subst hws
        rw [List.append_assoc]
        exact .inr (Fail.prepend hvl hle ((hf.ext hx).append _))
      | @ok r _ _ hvr hre hrv =>
        have hv : firstEnf (vl ++ vr) = none := by rw [firstEnf_append_none hvl]; exact hvr
        have he : s2.errors = s.errors := hre.trans hle
        clear hx
        unfold condExprM at hres
        rw [hp1] at hres; dsimp only at hres hws; rw [hp2] at hres; dsimp only at hres
        by_cases hne : l.ty ≠ r.ty
        · rw [if_pos hne] at hres hws; subst hres hws
          exact .inr (Fail.prepend hv he (Fail.of_addErr ..))
        · rw [if_neg hne] at hres hws
          cases hprim : l.ty.isPrim with
          | false =>
            rw [hprim] at hres hws; subst hres hws
            exact .inr (Fail.prepend hv he (Fail.of_addErr ..))
          | true =>
            rw [hprim] at hres hws
            simp only [Bool.not_true, Bool.false_eq_true, if_false] at hres hws
            have hs3 : ((s2.incReg).push (.condExpr l r c.cond s2.incReg.curReg)).vals = s.vals :=
              (vals_push _ _).trans ((vals_incReg s2).trans (hrv.trans hlv))
            cases right with
            | none => subst hres hws; exact .inl ⟨hv, he, hs3⟩
            | some p =>
              obtain ⟨lg, rc⟩ := p
              have ih := ih lg rc rfl _ (scopeRel_of_sameVals hs hs3)
              dsimp only at hres hws
              generalize condExprM g rc ((s2.incReg).push (.condExpr l r c.cond s2.incReg.curReg)) = res' at ih hres
              subst hres hws
              rcases ih with ⟨hv3, he3, hvals3⟩ | hf
              · exact .inl ⟨by rw [firstEnf_append_none hv]; exact hv3, he3.trans he,
                  (vals_push _ _).trans ((vals_incReg _).trans (hvals3.trans hs3))⟩
              · exact .inr (Fail.prepend hv he (hf.silent rfl))

theorem rext_checkLet (rg : RGlobals) (b : LetB) (rs : RS) : RExt rs (checkLet rg b rs) := by
  unfold checkLet
  obtain ⟨vs, to⟩ := checkExpr rg rs.scope b.value
  cases to with
  | none => exact rext_add ..
  | some t => exact (rext_add vs rs).trans (.ite (rext_viol ..) (rext_scope ..))

theorem rext_checkBind (rg : RGlobals) (b : Bind) (rs : RS) : RExt rs (checkBind rg b rs) := by
  unfold checkBind
  obtain ⟨vs, to⟩ := checkExpr rg rs.scope b.value
  cases to with
  | none => exact rext_add ..
  | some t =>
    refine (rext_add vs rs).trans ?_
    dsimp only
    cases (rs.add vs).scope.lookup b.name with
    | none => exact rext_viol ..
    | some p => exact .ite (rext_viol ..) (rext_optAdd ..)

theorem rext_checkCallS (rg : RGlobals) (c : CallS) (rs : RS) : RExt rs (checkCallS rg c rs) := rext_add _ _

theorem rext_checkIfCond (rg : RGlobals) (c : IfCond) (rs : RS) : RExt rs (checkIfCond rg c rs) := by
  unfold checkIfCond; cases c <;> exact rext_add _ _

theorem rext_checkNestedRet (rg : RGlobals) (resTy : Ty) (e : Expr) (rs : RS) : RExt rs (checkNestedRet rg resTy e rs).1 := by
  unfold checkNestedRet
  obtain ⟨vs, to⟩ := checkExpr rg rs.scope e
  cases to with
  | none => exact rext_add ..
  | some t => exact ((rext_add vs rs).trans (rext_optAdd ..)).trans (rext_optAdd ..)

theorem rext_codeAfter (rc bc cc : Bool) (rs : RS) : RExt rs (codeAfter rc bc cc rs) :=
  ((optViol_ext rc rs _ _ _).trans (optViol_ext bc _ _ _ _)).trans (optViol_ext cc _ _ _ _)

theorem rext_pushpop {rs : RS} {f : RS → RS} (h : ∀ x, RExt x (f x)) : RExt rs (f rs.push).pop :=
  ((rext_push rs).trans (h _)).trans (rext_pop _)

theorem rext_checkN (rg : RGlobals) (resTy : Ty) (st : NStmt) (f : Flags) (rs : RS)
    (h : st.Sub (fun i => ∀ rs, RExt rs (checkIf rg resTy i rs))
      (fun l => ∀ rc bc cc rs, RExt rs (checkLoopBody rg resTy l rc bc cc rs))) :
    RExt rs (checkN rg resTy st f rs).1 := by
  have h0 := rext_codeAfter f.rc f.bc f.cc rs
  cases st with
  | letB b => exact h0.trans (rext_checkLet rg b _)
  | bind b => exact h0.trans (rext_checkBind rg b _)
  | call c => exact h0.trans (rext_checkCallS rg c _)
  | ifS i => exact h0.trans (h _)
  | loop l => exact h0.trans (rext_pushpop (h false false false))
  | ret e => exact h0.trans (rext_checkNestedRet rg resTy e _)
  | brk => exact h0
  | cont => exact h0

theorem rext_ind (rg : RGlobals) (resTy : Ty) : BodyInd
    (fun i => ∀ rs, RExt rs (checkIf rg resTy i rs))
    (fun b => ∀ rs, RExt rs (checkBodies rg resTy b rs))
    (fun l => ∀ rc rs, RExt rs (checkIfBody rg resTy l rc rs))
    (fun l => ∀ rc bc cc rs, RExt rs (checkIfLoopBody rg resTy l rc bc cc rs))
    (fun l => ∀ rc bc cc rs, RExt rs (checkLoopBody rg resTy l rc bc cc rs)) where
  ifS cond body els elif hb he hi rs := by
    have h1 : RExt rs (checkBodies rg resTy body (checkIfCond rg cond
        (if els.isSome && elif.isSome then rs.viol "B10" .ifElseDuplicated "if-condition".toList else rs).push)).pop :=
      (optViol_ext ..).trans (rext_pushpop fun x => (rext_checkIfCond rg cond x).trans (hb _))
    cases els with
    | some eb => exact h1.trans (rext_pushpop (he eb rfl))
    | none =>
      cases elif with
      | some ei => exact h1.trans (hi ei rfl _)
      | none => exact h1
  ifb l h := h false
  loopb l h := h false false false
  ifNil _ rs := RExt.refl rs
  ifCons st tl hs ht rc rs := by
    rw [checkIfBody_cons]
    exact (rext_checkN rg resTy st.toN _ rs hs).trans (ht _ _)
  ifLoopNil _ _ _ rs := RExt.refl rs
  ifLoopCons st tl hs ht rc bc cc rs := by
    rw [checkIfLoopBody_cons]
    exact (rext_checkN rg resTy st.toN _ rs hs).trans (ht _ _ _ _)
  loopNil _ _ _ rs := RExt.refl rs
  loopCons st tl hs ht rc bc cc rs := by
    rw [checkLoopBody_cons]
    exact (rext_checkN rg resTy st.toN _ rs hs).trans (ht _ _ _ _)

theorem rext_checkIf (rg : RGlobals) (resTy : Ty) : ∀ (i : IfStmt) (rs : RS), RExt rs (checkIf rg resTy i rs) :=
  (rext_ind rg resTy).ifStmt

theorem rext_checkBodies (rg : RGlobals) (resTy : Ty) : ∀ (b : IfBodies) (rs : RS), RExt rs (checkBodies rg resTy b rs) :=
  (rext_ind rg resTy).bodies

theorem rext_checkIfBody (rg : RGlobals) (resTy : Ty) : ∀ (l : List IfBodyStmt) (rc : Bool) (rs : RS),
    RExt rs (checkIfBody rg resTy l rc rs) :=
  (rext_ind rg resTy).ifBody

theorem rext_checkIfLoopBody (rg : RGlobals) (resTy : Ty) : ∀ (l : List IfLoopStmt) (rc bc cc : Bool) (rs : RS),
    RExt rs (checkIfLoopBody rg resTy l rc bc cc rs) :=
  (rext_ind rg resTy).ifLoopBody

theorem rext_checkLoopBody (rg : RGlobals) (resTy : Ty) : ∀ (l : List LoopStmt) (rc bc cc : Bool) (rs : RS),
    RExt rs (checkLoopBody rg resTy l rc bc cc rs) :=
  (rext_ind rg resTy).loopBody

end SemVerif
