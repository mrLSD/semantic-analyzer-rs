import SemVerif.Lemmas.T1Ctl
/-!
# Lemmas/T1Fn — verdict simulation (family T1), function bodies
-/
namespace SemVerif

variable {g : Globals} {rg : RGlobals}

theorem checkTypeExists_spec (hg : GlobRel g rg) (t : Ty) (n : Name) (s : St) :
    (typeRegistered rg t = true ∧ (checkTypeExists g t n s).2 = s) ∨
    (typeRegistered rg t = false ∧ (checkTypeExists g t n s).2 = s.addErr .typeNotFound n 1 0) := by
  unfold checkTypeExists typeRegistered
  cases t with
  | prim p => exact Or.inl ⟨rfl, rfl⟩
  | struct sn a =>
    dsimp only
    rw [← hg.types]
    cases g.types (Ty.struct sn a).show with
    | none => exact Or.inr ⟨rfl, rfl⟩
    | some _ => exact Or.inl ⟨rfl, rfl⟩
  | array u k =>
    dsimp only
    rw [← hg.types]
    cases g.types (Ty.array u k).show with
    | none => exact Or.inr ⟨rfl, rfl⟩
    | some _ => exact Or.inl ⟨rfl, rfl⟩

theorem sim_optErrP (p : Prop) [Decidable p] (s : St) (rs : RS) (k : ErrKind) (n : Name) (l o : Nat) (r : String)
    (hs : ScopeRel s rs.scope) :
    StmtSim s (if p then s.addErr k n l o else s) rs (if p then rs.viol r k n else rs)
      (ScopeRel (if p then s.addErr k n l o else s) (if p then rs.viol r k n else rs).scope) := by
  by_cases hp : p
  · simp only [hp, if_true]; exact sim_err s rs k n l o r _
  · simp only [hp, if_false]; exact StmtSim.refl s rs hs

theorem optErrP_len (p : Prop) [Decidable p] (s : St) (k : ErrKind) (n : Name) (l o : Nat) :
    (if p then s.addErr k n l o else s).inner.length = s.inner.length := by
  split <;> rfl

theorem sim_fnReturnTail (hg : GlobRel g rg) (resTy : Ty) (e : Expr) (r : ExprResult) (s : St) (rs : RS)
    (hs : ScopeRel s rs.scope) :
    StmtSim s (fnReturnTail g resTy e r s) rs (checkFnRetTail rg resTy e r.ty rs)
      (Post s (fnReturnTail g resTy e r s) (checkFnRetTail rg resTy e r.ty rs)) := by
  unfold fnReturnTail checkFnRetTail
  dsimp only
  have h1 : StmtSim s (checkTypeExists g r.ty e.show s).2 rs
      (if !typeRegistered rg r.ty then rs.viol "B11-type" .typeNotFound e.show else rs)
      (Post s (checkTypeExists g r.ty e.show s).2 (if !typeRegistered rg r.ty then rs.viol "B11-type" .typeNotFound e.show else rs)) := by
    rcases checkTypeExists_spec hg r.ty e.show s with ⟨ht, hs'⟩ | ⟨ht, hs'⟩
    · rw [hs', ht]; exact StmtSim.refl s rs ⟨hs, rfl⟩
    · rw [hs', ht]; exact sim_err ..
  generalize (checkTypeExists g r.ty e.show s).2 = s1 at h1
  generalize (if !typeRegistered rg r.ty then rs.viol "B11-type" .typeNotFound e.show else rs) = r1 at h1
  -- return type (the two sides write the inequality in opposite directions)
  have h2 : StmtSim s (if resTy ≠ r.ty then s1.addErr .wrongReturnType e.show 1 0 else s1) rs
      (if r.ty ≠ resTy then r1.viol "B11" .wrongReturnType e.show else r1)
      (Post s (if resTy ≠ r.ty then s1.addErr .wrongReturnType e.show 1 0 else s1)
        (if r.ty ≠ resTy then r1.viol "B11" .wrongReturnType e.show else r1)) := by
    by_cases hne : resTy = r.ty
    · rw [if_neg (not_not_intro hne), if_neg (not_not_intro hne.symm)]; exact h1
    · rw [if_pos hne, if_pos (Ne.symm hne)]; exact h1.thenErr ..
  generalize (if resTy ≠ r.ty then s1.addErr .wrongReturnType e.show 1 0 else s1) = s2 at h2
  generalize (if r.ty ≠ resTy then r1.viol "B11" .wrongReturnType e.show else r1) = r2 at h2
  have hpush : ∀ i, Post s s2 r2 → Post s (s2.push i) r2 := fun i hp =>
    ⟨by unfold ScopeRel; rw [vals_push]; exact hp.1, (List.length_map _).trans hp.2⟩
  cases s2.cur.manualReturn <;> exact h2.of_eq rfl rfl (hpush _)

theorem rext_checkFnRetTail (resTy : Ty) (e : Expr) (t : Ty) (rs : RS) : RExt rs (checkFnRetTail rg resTy e t rs) :=
  (rext_optAdd ..).trans (rext_optAdd ..)

theorem rext_checkFnRet (resTy : Ty) (e : Expr) (rc : Bool) (rs : RS) : RExt rs (checkFnRet rg resTy e rc rs).1 := by
  unfold checkFnRet
  obtain ⟨vs, t⟩ := checkExpr rg rs.scope e
  have h1 := (rext_add vs rs).trans (optViol_ext rc _ .returnAlreadyCalled e.show "B12-twice")
  cases t with
  | none => exact h1
  | some t => exact h1.trans (rext_checkFnRetTail resTy e t _)

theorem sim_fnReturn (hg : GlobRel g rg) (resTy : Ty) (e : Expr) (rc : Bool) (s : St) (rs : RS) (hs : ScopeRel s rs.scope) :
    StmtSim s (fnReturn g resTy e rc s).1 rs (checkFnRet rg resTy e rc rs).1
      (Post s (fnReturn g resTy e rc s).1 (checkFnRet rg resTy e rc rs).1 ∧
        (fnReturn g resTy e rc s).2 = (checkFnRet rg resTy e rc rs).2) := by
  have h1 := exprSim_iff.1 (sim_exprM hg rs.scope e) s hs
  have hlen := (em_exprM g e s).inner_len
  unfold fnReturn checkFnRet
  generalize exprM g e s = p at h1 hlen ⊢
  generalize checkExpr rg rs.scope e = c at h1 ⊢
  cases h1 with
  | @fail a s1 vs hf =>
    -- the expression failed: everything afterwards only appends
    refine StmtSim.seq (P := False) ⟨vs, rfl, .inr hf⟩ (fun h => h.elim) ?_ (optViol_ext ..)
    cases a with
    | none => exact optErr_ext ..
    | some r => exact errors_ext_trans (optErr_ext ..) (steps_fnReturnTail ..).errors_ext
  | @ok r s1 vs hv he hvals =>
    have hA : StmtSim s s1 rs (rs.add vs) (ScopeRel s1 (rs.add vs).scope) :=
      ⟨vs, rfl, .inl ⟨hv, he, scopeRel_of_sameVals hs hvals⟩⟩
    have hB := hA.seq (fun hp => sim_optErr rc s1 (rs.add vs) .returnAlreadyCalled e.show 1 0 "B12-twice" hp)
      (optErr_ext ..) (optViol_ext ..)
    have hlenB : (if rc then s1.addErr .returnAlreadyCalled e.show 1 0 else s1).inner.length = s.inner.length :=
      (optErrP_len ..).trans hlen
    dsimp only
    generalize (if rc then s1.addErr .returnAlreadyCalled e.show 1 0 else s1) = s2 at hB hlenB
    generalize (if rc then (rs.add vs).viol "B12-twice" .returnAlreadyCalled e.show else rs.add vs) = r2 at hB
    exact hB.seq (fun hp => (sim_fnReturnTail hg resTy e r s2 r2 hp).weaken fun hq => ⟨⟨hq.1, hq.2.trans hlenB⟩, rfl⟩)
      (steps_fnReturnTail g resTy e r s2).errors_ext (rext_checkFnRetTail resTy e r.ty r2)

theorem rext_checkBody (resTy : Ty) : ∀ (l : List BodyStmt) (rc : Bool) (rs : RS), RExt rs (checkBody rg resTy l rc rs).1
  | [], _, rs => RExt.refl rs
  | st :: tl, rc, rs => by
    rw [checkBody_cons]
    have h0 : RExt rs (afterRet rc rs) := optViol_ext ..
    cases st.split with
    | inl n => exact (h0.trans (rext_checkN rg resTy n _ _ ((rext_ind rg resTy).sub n))).trans (rext_checkBody resTy tl rc _)
    | inr e => exact (h0.trans (rext_checkFnRet resTy e rc _)).trans (rext_checkBody resTy tl _ _)

theorem sim_bodyStmts (hg : GlobRel g rg) (resTy : Ty) : ∀ (l : List BodyStmt) (rc : Bool) (s : St) (rs : RS),
    BodyStmt.loopOKL l = true → ScopeRel s rs.scope →
    StmtSim s (bodyStmts g resTy l rc s).1 rs (checkBody rg resTy l rc rs).1
      (Post s (bodyStmts g resTy l rc s).1 (checkBody rg resTy l rc rs).1 ∧
        (bodyStmts g resTy l rc s).2 = (checkBody rg resTy l rc rs).2) := by
  intro l
  induction l with
  | nil => intro rc s rs _ hs; exact StmtSim.refl s rs ⟨⟨hs, rfl⟩, rfl⟩
  | cons st tl ih =>
    intro rc s rs hok hs
    rw [BodyStmt.loopOKL_cons, Bool.and_eq_true] at hok
    rw [bodyStmts_cons, checkBody_cons]
    have h0 := sim_optErr rc s rs .forbiddenCodeAfterReturnDeprecated wildcard 1 1 "B12-after" hs
    have l0 := optErrP_len (rc = true) s .forbiddenCodeAfterReturnDeprecated wildcard 1 1
    generalize hs0 : (if rc then s.addErr .forbiddenCodeAfterReturnDeprecated wildcard 1 1 else s) = s0 at h0 l0
    generalize hr0 : (if rc then rs.viol "B12-after" .forbiddenCodeAfterReturnDeprecated wildcard else rs) = r0 at h0
    -- one statement that leaves flag `rc'`, followed by the rest of the body
    have step : ∀ (s1 : St) (r1 : RS) (rc' rcc : Bool),
        (ScopeRel s0 r0.scope → StmtSim s0 s1 r0 r1 (Post s0 s1 r1 ∧ rc' = rcc)) →
        (∃ Δ, s1.errors = s0.errors ++ Δ) → RExt r0 r1 → BodyStmt.loopOKL tl = true →
        StmtSim s (bodyStmts g resTy tl rc' s1).1 rs (checkBody rg resTy tl rcc r1).1
          (Post s (bodyStmts g resTy tl rc' s1).1 (checkBody rg resTy tl rcc r1).1 ∧
            (bodyStmts g resTy tl rc' s1).2 = (checkBody rg resTy tl rcc r1).2) := by
      intro s1 r1 rc' rcc h1 a1 c1 hok'
      refine (h0.seq h1 a1 c1).seq (fun hp => ?_) (steps_bodyStmts g resTy tl rc' s1).errors_ext (rext_checkBody resTy tl rcc r1)
      obtain ⟨hp1, rfl⟩ := hp
      exact (ih rc' s1 r1 hok' hp1.1).weaken fun hq => ⟨⟨hq.1.1, hq.1.2.trans (hp1.2.trans l0)⟩, hq.2⟩
    subst hs0 hr0
    generalize st.split = q at hok ⊢
    cases q with
    | inl n =>
      dsimp only
      -- `h0` covers the diagnostic in front of the statement; the statement itself runs with no flag set
      rw [nStmt_forbidden]
      exact step _ _ rc rc
        (fun hs0 => (sim_nStmt hg resTy ⟨none, none⟩ n ⟨false, false, false⟩ _ _ hok.1 ((sim_ind hg resTy).sub n) hs0).weaken
          fun hp => ⟨hp.1, rfl⟩)
        (steps_nStmt' g _ n _ _).errors_ext (rext_checkN rg resTy n _ _ ((rext_ind rg resTy).sub n)) hok.2
    | inr e =>
      exact step _ _ _ _ (sim_fnReturn hg resTy e rc _ _) (steps_fnReturn g resTy e rc _).errors_ext
        (rext_checkFnRet resTy e rc _) hok.2

theorem checkParams_cons (n : Name) (t : ATy) (rest : List (Name × ATy)) (s : RS) :
    checkParams ((n, t) :: rest) s = match s.scope.lookup n with
      | some _ => s.viol "B1" .functionArgumentNameDuplicated n
      | none => checkParams rest { s with scope := s.scope.declare n t.toTy false } := rfl

theorem rext_checkParams : ∀ (ps : List (Name × ATy)) (rs : RS), RExt rs (checkParams ps rs)
  | [], rs => RExt.refl rs
  | (n, t) :: rest, rs => by
    rw [checkParams_cons]
    split
    · exact rext_viol ..
    · exact (rext_scope rs _).trans (rext_checkParams rest _)

theorem initParams_ext : ∀ (ps : List (Name × ATy)) (s : St), ∃ Δ, (initParams ps s).errors = s.errors ++ Δ
  | [], s => errors_ext_of_eq rfl
  | (n, t) :: rest, s => by
    unfold initParams
    split
    · exact ⟨[_], rfl⟩
    · exact errors_ext_trans (errors_ext_of_eq (errors_declare ..)) (initParams_ext rest _)

theorem sim_initParams : ∀ (ps : List (Name × ATy)) (s : St) (rs : RS), ScopeRel s rs.scope →
    StmtSim s (initParams ps s) rs (checkParams ps rs) (ScopeRel (initParams ps s) (checkParams ps rs).scope)
  | [], s, rs, hs => StmtSim.refl s rs hs
  | (n, t) :: rest, s, rs, hs => by
    unfold initParams
    rw [checkParams_cons, ← scopeRel_lookup hs n]
    cases s.lookupValue n with
    | some v => exact sim_err ..
    | none =>
      refine StmtSim.seq (Q := ScopeRel _ _) ?_ (fun hp => sim_initParams rest _ _ hp) (initParams_ext rest _)
        (rext_checkParams rest _)
      exact (StmtSim.refl s rs hs).of_eq (errors_declare ..) rfl fun h => scopeRel_declare h ..

end SemVerif
