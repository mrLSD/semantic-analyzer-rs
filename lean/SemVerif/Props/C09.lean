import SemVerif.Spec.Preds
import SemVerif.Inventory
import SemVerif.Lemmas.StmtSteps
import SemVerif.Lemmas.Misc
import SemVerif.Lemmas.Frames
import SemVerif.Driver
/-!
# Property C09 — result registers are fresh and strictly increasing within a function

For every program (accepted or not) and every function: the registers written by the
instructions of the function's stack are strictly increasing in emission order and start at 1
(each root block starts with counter 0).  Proved from the invariant "all live blocks carry the
same counter, and it bounds every register written so far", which every primitive step keeps.
-/
namespace SemVerif

structure RegInv (s : St) : Prop where
  sync : ∀ b ∈ s.inner, b.reg = s.root.reg
  sorted : (resultRegs s.root.context).Pairwise (· < ·)
  bound : ∀ r ∈ resultRegs s.root.context, 1 ≤ r ∧ r ≤ s.root.reg

theorem RegInv.frames {s : St} (h : RegInv s) : ∀ b ∈ s.frames, b.reg = s.root.reg := fun b hb =>
  (mem_frames.mp hb).elim (h.sync b) (fun e => e ▸ rfl)

theorem RegInv.cur {s : St} (h : RegInv s) : s.cur.reg = s.root.reg := h.frames _ (cur_mem_frames s)

/-- the invariant reads the counter of every live block and the registers written on the root's stack:
a state whose live blocks take their counters from those of `s` and whose root has written the same
registers inherits it -/
theorem regInv_of_regs {s s' : St} (hf : ∀ b ∈ s'.frames, ∃ b0 ∈ s.frames, b.reg = b0.reg)
    (hc : resultRegs s'.root.context = resultRegs s.root.context) (h : RegInv s) : RegInv s' := by
  have hreg : ∀ b ∈ s'.frames, b.reg = s.root.reg := fun b hb => by
    obtain ⟨b0, hb0, e⟩ := hf b hb
    exact e.trans (h.frames b0 hb0)
  have hroot := hreg s'.root (mem_frames.mpr (Or.inr rfl))
  refine ⟨fun b hb => ?_, ?_, ?_⟩
  · rw [hroot]; exact hreg b (mem_frames.mpr (Or.inl hb))
  · rw [hc]; exact h.sorted
  · rw [hc, hroot]; exact h.bound

/-- what the invariant sees of a live block -/
def regView (b : Block) : Nat × List Nat := (b.reg, resultRegs b.context)

theorem regInv_of_view {s s' : St} (h : s'.frames.map regView = s.frames.map regView) (inv : RegInv s) : RegInv s' := by
  refine regInv_of_regs (fun b hb => ?_) (congrArg (·.2) (root_inner_of_frames_map h).1) inv
  obtain ⟨b0, hb0, e⟩ := exists_of_map_eq h hb
  exact ⟨b0, hb0, (congrArg (·.1) e).symm⟩

theorem regInv_mapFrames {s : St} (f : Block → Block) (hf : ∀ b, regView (f b) = regView b) (h : RegInv s) :
    RegInv (s.mapFrames f) :=
  regInv_of_view (frames_map_mapFrames regView f hf s) h

theorem regInv_mapCur {s : St} (f : Block → Block) (hf : ∀ b, regView (f b) = regView b) (h : RegInv s) :
    RegInv (s.mapCur f) :=
  regInv_of_view (frames_map_mapCur regView f hf s) h

theorem regInv_push_none {s : St} (h : RegInv s) (i : Instr) (hw : i.writes = none) : RegInv (s.push i) :=
  regInv_mapFrames _ (fun b => by simp [regView, resultRegs_append, hw]) h

theorem regInv_push_some {s : St} (h : RegInv s) (i : Instr) {r : Nat} (hw : i.writes = some r)
    (hlt : ∀ x ∈ resultRegs s.root.context, x < r) (h1 : 1 ≤ r) (hle : r ≤ s.root.reg) : RegInv (s.push i) := by
  have hctx : resultRegs (s.push i).root.context = resultRegs s.root.context ++ [r] := by
    rw [← Option.toList_some, ← hw]; exact resultRegs_append _ i
  refine ⟨fun b hb => ?_, ?_, fun x hx => ?_⟩
  · obtain ⟨b', hb', rfl⟩ := List.mem_map.mp hb
    exact h.sync b' hb'
  · rw [hctx, List.pairwise_append]
    exact ⟨h.sorted, List.pairwise_singleton _ _, fun a ha b hb => List.mem_singleton.mp hb ▸ hlt a ha⟩
  · rw [hctx] at hx
    rcases List.mem_append.mp hx with hx | hx
    · exact h.bound x hx
    · rw [List.mem_singleton.mp hx]; exact ⟨h1, hle⟩

theorem regInv_incReg {s : St} (h : RegInv s) : RegInv s.incReg := by
  refine ⟨fun b hb => ?_, h.sorted, fun r hr => ⟨(h.bound r hr).1, ?_⟩⟩
  · obtain ⟨b', _, rfl⟩ := List.mem_map.mp hb
    rfl
  · exact Nat.le_succ_of_le (h.cur ▸ (h.bound r hr).2)

theorem regInv_estep {s s' : St} (h : RegInv s) (st : EStep s s') : RegInv s' := by
  cases st with
  | incReg => exact regInv_incReg h
  | emit i hw _ _ _ => exact regInv_push_none h i hw
  | incEmit i hw _ _ _ =>
    -- the new counter is above every register written so far, and `i` writes it
    have h1 := regInv_incReg h
    have hr : s.incReg.curReg = s.cur.reg + 1 := h1.cur
    rw [hr] at hw
    exact regInv_push_some h1 i hw (fun x hx => Nat.lt_succ_of_le (h.cur ▸ (h.bound x hx).2)) (Nat.succ_pos _)
      (Nat.le_refl _)
  | addErr k v l o => exact ⟨h.sync, h.sorted, h.bound⟩
  | declare n v i _ hw _ _ _ =>
    have h1 : RegInv (s.insertValue n v) := regInv_mapCur _ (fun _ => rfl) h
    have h2 : RegInv ((s.insertValue n v).registerInner v.innerName) := regInv_mapFrames _ (fun _ => rfl) h1
    exact regInv_push_none h2 i hw

theorem regInv_step {s s' : St} (h : RegInv s) (st : Step s s') : RegInv s' := by
  cases st with
  | e he => exact regInv_estep h he
  | enter =>
    refine ⟨fun b hb => ?_, h.sorted, h.bound⟩
    rcases List.mem_cons.mp hb with rfl | hb
    · exact h.cur
    · exact h.sync b hb
  | leave =>
    refine regInv_of_regs (fun b hb => ?_) (congrArg resultRegs (root_leave_fields s).1) h
    obtain ⟨b', hb', _, _, _, _, e, _⟩ := mem_frames_leave s b hb
    exact ⟨b', hb', e⟩
  | regLabel l _ => exact regInv_mapFrames _ (fun _ => rfl) h
  | ctl i hw _ _ => exact regInv_push_none h i hw
  | emitRet i _ hw _ _ _ => exact regInv_push_none h i hw
  | ctlVia k i hw _ _ =>
    refine regInv_push_none ?_ i hw
    exact regInv_mapCur _ (fun _ => rfl) h
  | setReturn => exact regInv_mapFrames _ (fun _ => rfl) h
  | setPanic site =>
    unfold St.setPanic
    cases s.panic <;> exact ⟨h.sync, h.sorted, h.bound⟩

theorem regInv_steps {s s' : St} (h : RegInv s) (st : Steps s s') : RegInv s' := by
  induction st with
  | refl => exact h
  | tail _ st ih => exact regInv_step ih st

theorem regInv_init : RegInv St.init :=
  ⟨fun _ hb => (nomatch hb), List.Pairwise.nil, fun _ hr => (nomatch hr)⟩

theorem strictlyIncreasing_of_pairwise : ∀ (l : List Nat), l.Pairwise (· < ·) → strictlyIncreasing l = true
  | [], _ => rfl
  | [_], _ => rfl
  | _ :: b :: _, h =>
    have ⟨h1, h2⟩ := List.pairwise_cons.mp h
    Bool.and_eq_true_iff.mpr ⟨decide_eq_true (h1 b List.mem_cons_self), strictlyIncreasing_of_pairwise _ h2⟩

/-- C09 for one function: every function body, analysed under any global tables, has strictly
increasing result registers starting at 1 -/
theorem C09_function (g : Globals) (f : FnDecl) : c09Stack (functionBody g f).root.context = true := by
  have h := regInv_steps regInv_init (steps_functionBody g f)
  unfold c09Stack
  simp only [Bool.and_eq_true, List.all_eq_true, decide_eq_true_eq]
  exact ⟨strictlyIncreasing_of_pairwise _ h.sorted, fun r hr => (h.bound r hr).1⟩

/-- **C09** — for every program, the output predicate of the property holds on the model's result:
no function has two instructions writing the same register or a non-increasing result register -/
theorem C09 (p : Program) : P_C09 (run p) = [] := by
  unfold P_C09
  rw [List.map_eq_nil_iff, List.filter_eq_nil_iff]
  intro ⟨b, i⟩ hx
  obtain ⟨s, hs, rfl⟩ := List.mem_map.mp (List.fst_mem_of_mem_zipIdx hx)
  obtain ⟨f, _, rfl⟩ := List.mem_map.mp hs
  simp [C09_function]

/-- non-vacuity: a concrete function with nested blocks whose registers are 1,2,3 -/
example : resultRegs (functionBody ⟨fun _ => none, fun _ => none, fun _ => none⟩
    ⟨['f'], [(['x'], .prim .u8)], .prim .u8,
     [.ifS (.mk (.single (.mk (.var ['x']) none)) (.ifb [.letB ⟨['y'], false, none, .mk (.var ['x']) none⟩]) none none),
      .ret (.mk (.var ['x']) none)]⟩).root.context = [1, 2, 3] := by decide +kernel

theorem driver_C09 (p : Program) : failingOf .C09 p (run p) true = [] := C09 p

end SemVerif
