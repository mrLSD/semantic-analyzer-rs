import SemVerif.Props.C01
import SemVerif.Props.C02
import SemVerif.Props.C03
import SemVerif.Props.C04
import SemVerif.Props.C05
import SemVerif.Props.C06
import SemVerif.Props.C07Stack
import SemVerif.Props.C08
import SemVerif.Props.C09
import SemVerif.Props.C10Res
import SemVerif.Props.C11
import SemVerif.Props.C12Lex
import SemVerif.Props.C13
import SemVerif.Props.C14
import SemVerif.Props.C15
import SemVerif.Props.C18Values
import SemVerif.Props.C19
/-!
# Props/All — what the driver prints on the model's own result, property by property

`driver_sound`: for every single-program property, every program of the documented domain
(`LoopOKB`: loop-flavoured if-bodies only inside loops), the failing instances the driver computes
on the model's result (`failingOf id p (run p) true` — exactly the expression `Main.lean` evaluates)
are instances of the recorded findings of that property (`knownTagsOf`, the tags of
`known_findings.json`), and none at all for the thirteen properties without a recorded finding.
For C05 the statement is for programs no function of which matches F3 (for functions that match F3
there is no theorem: DESIGN §8.3).  The per-property pieces (`driver_Cxx`, at the end of each property's file) are
obligations of the respective checks; this file only assembles them.  The group properties C16 /
C17 and C20 are not single-program predicates and are stated in their own files.
-/
namespace SemVerif

theorem driver_sound (id : PropId) (p : Program) (hok : LoopOKB p = true)
    (h3 : id = .C05 → ∀ f ∈ p.fnDecls, f.hasF3 = false) :
    ∀ t ∈ failingOf id p (run p) true, t ∈ knownTagsOf id := by
  intro t ht
  cases id with
  | C01 => exact driver_C01 p hok t ht
  | C02 => rw [driver_C02 p] at ht; cases ht
  | C03 => rw [driver_C03 p] at ht; cases ht
  | C04 => rw [driver_C04 p] at ht; cases ht
  | C05 => exact driver_C05 p (h3 rfl) t ht
  | C06 => rw [driver_C06 p] at ht; cases ht
  | C07 => rw [driver_C07 p] at ht; cases ht
  | C08 => exact driver_C08 p t ht
  | C09 => rw [driver_C09 p] at ht; cases ht
  | C10 => exact driver_C10 p t ht
  | C11 => rw [driver_C11 p] at ht; cases ht
  | C12 => rw [driver_C12 p] at ht; cases ht
  | C13 => rw [driver_C13 p] at ht; cases ht
  | C14 => rw [driver_C14 p] at ht; cases ht
  | C15 => rw [driver_C15 p] at ht; cases ht
  | C18 => rw [driver_C18 p hok] at ht; cases ht
  | C19 => rw [driver_C19 p] at ht; cases ht

/-- the properties without a recorded finding: nothing is reported on the model's result -/
theorem driver_quiet (id : PropId) (p : Program) (hok : LoopOKB p = true) (hk : knownTagsOf id = []) :
    failingOf id p (run p) true = [] := by
  rw [List.eq_nil_iff_forall_not_mem]
  intro t ht
  have := driver_sound id p hok (by intro h; subst h; simp [knownTagsOf] at hk) t ht
  rw [hk] at this
  cases this

end SemVerif
