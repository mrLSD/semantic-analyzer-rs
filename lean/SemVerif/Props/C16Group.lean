import SemVerif.Props.C16
import SemVerif.Lemmas.Misc
/-!
# Property C16 — the group predicate the check evaluates

`C16_group`: for a program `p` whose struct names and function names are pairwise distinct and any
list of permutations of its top level that keep the constants in their relative order, the group
predicate `P_C16` (what `Main.lean` evaluates on a `perm` group) reports nothing on the model's
results.  The predicate compares canonical forms (sorted error strings, tables printed in key
order, block trees sorted by function name), so the bridge from theorem `C16` is: a permutation with
pairwise distinct keys has one sorted form.
-/
namespace SemVerif

theorem Name.lt_iff (a : Name) : ∀ (b : Name), Name.lt a b = true ↔ a < b := by
  induction a with
  | nil =>
    intro b
    cases b with
    | nil => exact ⟨Bool.noConfusion, fun h => (List.lt_irrefl _ h).elim⟩
    | cons b bs => exact ⟨fun _ => List.nil_lt_cons b bs, fun _ => rfl⟩
  | cons a as ih =>
    intro b
    cases b with
    | nil => exact ⟨Bool.noConfusion, fun h => (List.not_lt_nil _ h).elim⟩
    | cons b bs =>
      rw [List.cons_lt_cons_iff, ← ih bs]
      -- `Char.toNat` compares as `<` on `Char` does
      show (if a < b then true else if b < a then false else Name.lt as bs) = true ↔ _
      by_cases hab : a < b
      · simp [hab]
      · by_cases hba : b < a
        · have : a ≠ b := by rintro rfl; exact hab hba
          simp [hab, hba, this]
        · have : a = b := Char.le_antisymm (Char.not_lt.mp hba) (Char.not_lt.mp hab)
          simp [this]

theorem Name.lt_irrefl : ∀ (a : Name), Name.lt a a = false :=
  fun a => Bool.eq_false_iff.mpr fun h => List.lt_irrefl a ((Name.lt_iff a a).mp h)

theorem nameLe_iff (a b : Name) : nameLe a b = true ↔ a ≤ b := by
  rw [nameLe, Bool.not_eq_true', ← Bool.not_eq_true, Name.lt_iff, List.not_lt]

theorem mergeSort_eq_of_perm {α : Type} (le : α → α → Bool) (htrans : ∀ a b c, le a b = true → le b c = true → le a c = true)
    (htotal : ∀ a b, (le a b || le b a) = true) {l l' : List α} (h : l.Perm l')
    (hanti : ∀ a ∈ l, ∀ b ∈ l, le a b = true → le b a = true → a = b) : l.mergeSort le = l'.mergeSort le := by
  refine List.Perm.eq_of_pairwise (le := fun a b => le a b = true) ?_
    (List.pairwise_mergeSort htrans htotal l) (List.pairwise_mergeSort htrans htotal l')
    (((List.mergeSort_perm l le).trans h).trans (List.mergeSort_perm l' le).symm)
  intro a b ha hb
  rw [List.mem_mergeSort] at ha hb
  exact hanti a ha b (h.symm.subset hb)

theorem sortByKey_perm {β : Type} {l l' : List (Name × β)} (h : l.Perm l') (hk : (l.map (·.1)).Nodup) :
    sortByKey l = sortByKey l' := by
  unfold sortByKey
  exact mergeSort_eq_of_perm _
      (fun a b c h1 h2 => (nameLe_iff a.1 c.1).mpr (List.le_trans ((nameLe_iff a.1 b.1).mp h1) ((nameLe_iff b.1 c.1).mp h2)))
      (fun a b => by rw [Bool.or_eq_true, nameLe_iff, nameLe_iff]; exact List.le_total a.1 b.1) h
      (fun a ha b hb h1 h2 =>
        eq_of_key_eq hk ha hb (List.le_antisymm ((nameLe_iff _ _).mp h1) ((nameLe_iff _ _).mp h2)))

theorem sortStrings_perm {l l' : List String} (h : l.Perm l') :
    l.mergeSort (fun a b => decide (a ≤ b)) = l'.mergeSort (fun a b => decide (a ≤ b)) :=
  mergeSort_eq_of_perm (fun (a b : String) => decide (a ≤ b))
    (fun _ _ _ h1 h2 => decide_eq_true (String.le_trans (of_decide_eq_true h1) (of_decide_eq_true h2)))
    (fun a b => by rw [Bool.or_eq_true, decide_eq_true_eq, decide_eq_true_eq]; exact String.le_total a b) h
    (fun _ _ _ _ h1 h2 => String.le_antisymm (of_decide_eq_true h1) (of_decide_eq_true h2))

/-- the canonical forms `P_C16` compares are the same for a program and a permutation of it -/
theorem C16_canonical (p q : Program) (hperm : p.Perm q) (hc : p.cds = q.cds)
    (ht : (p.tds.map (·.name)).Nodup) (hf : (p.fns.map (·.name)).Nodup) (hpan : (run p).panic = none) :
    pi_verdict (run q) = pi_verdict (run p) ∧ errStrs (run q) = errStrs (run p) ∧
    tablesStr (run q) = tablesStr (run p) ∧ fnBlocks q (run q) = fnBlocks p (run p) := by
  obtain ⟨c1, c2, c3, c4, c5, c6, c7, c8⟩ := C16 p q hperm hc ht hf
  refine ⟨?_, sortStrings_perm (c6.map _), ?_, ?_⟩
  · unfold pi_verdict
    rw [c7, c6.isEmpty_eq]
  · have hpq : (run q).panic = none := Option.not_isSome_iff_eq_none.mp (by rw [c7, hpan]; exact Bool.false_ne_true)
    unfold tablesStr printResult
    dsimp only
    rw [hpan, hpq]
    dsimp only
    rw [c1, sortByKey_perm c2 ((c2.map _).nodup_iff.mpr c3), sortByKey_perm c4 ((c4.map _).nodup_iff.mpr c5)]
  · unfold fnBlocks
    rw [← fns_eq_fnDecls, ← fns_eq_fnDecls]
    refine sortByKey_perm (c8.map _) ?_
    -- the keys are the function names of `q`: there is a root block for every function
    have hlen : q.fns.length ≤ (run q).roots.length := by rw [run_eq]; simp only [List.length_map, Nat.le_refl]
    rw [List.map_map]
    show ((q.fns.zip (run q).roots).map (FnDecl.name ∘ Prod.fst)).Nodup
    rw [← List.map_map, List.map_fst_zip hlen]
    exact ((fns_perm hperm).map _).nodup_iff.mp hf

/-- **C16, as the check evaluates it** — a program and permutations of its top level: the group
predicate reports nothing on the model's results -/
theorem C16_group (p : Program) (qs : List Program)
    (hq : ∀ q ∈ qs, p.Perm q ∧ p.cds = q.cds)
    (ht : (p.tds.map (·.name)).Nodup) (hf : (p.fns.map (·.name)).Nodup) :
    P_C16 ((p, run p) :: qs.map fun q => (q, run q)) = [] := by
  unfold P_C16
  dsimp only
  by_cases hpan : (run p).panic.isSome = true
  · rw [if_pos hpan]
  · rw [if_neg hpan, List.flatMap_eq_nil_iff]
    rintro ⟨⟨q, _⟩, i⟩ hx
    obtain ⟨q', hq', heq⟩ := List.mem_map.mp (List.fst_mem_of_mem_zipIdx hx)
    cases heq
    obtain ⟨hperm, hc⟩ := hq q hq'
    obtain ⟨v1, v2, v3, v4⟩ := C16_canonical p q hperm hc ht hf (Option.not_isSome_iff_eq_none.mp hpan)
    exact (append_ite_nil (beq_iff_eq.mpr v4) _ _).trans <| (append_ite_nil (beq_iff_eq.mpr v3) _ _).trans <|
      (append_ite_nil (beq_iff_eq.mpr v2) _ _).trans (if_pos (beq_iff_eq.mpr v1))

end SemVerif
