import SemVerif.Props.T2
import SemVerif.Driver
/-!
# Property C08 — every register that is read has been written earlier in the same function

The unrestricted statement is false on the current tree (recorded finding F7: a call or a field
read used as an operand names the register *after* the one it wrote; the analyzer's own tests expect it).
`C08_partial`: for every program, on the model's result, the output predicate reports nothing but
instances of F7 — in the root stack of every function of an accepted program, each register read
(operand, logic-condition input, subject of a conditional instruction, argument, initialiser,
assigned or returned value) is the result register of an earlier instruction of the same stack, or
else it is `r+1` where `r` is the result register of an earlier `Call` / `ExpressionStructValue`
instruction *and no instruction of the stack writes it* (the matcher of F7, `isF7alias`).

Proof: the T2 simulation carries the reads invariant `RdInv` (every register read had a tree in the
abstract reading at that point — i.e. an earlier instruction wrote it or it is the alias register
after an earlier call / field read —, it was not above the counter, and every register written
by that instruction or later is above it); `c08_of_rdInv` turns that into the stack-level predicate.
The witness that the full statement fails is `C08_full_false` (3 instructions).
-/
namespace SemVerif

theorem of_mem_binds {i : Instr} {q : Nat} (h : q ∈ i.binds) :
    i.writes = some q ∨ ∃ w, i.writes = some w ∧ i.alias = true ∧ q = w + 1 := by
  unfold Instr.binds at h
  cases hw : i.writes with
  | none => rw [hw] at h; cases h
  | some w =>
    cases ha : i.alias with
    | false =>
      rw [hw, ha] at h
      exact Or.inl (congrArg some (List.mem_singleton.mp h).symm)
    | true =>
      rw [hw, ha] at h
      rcases List.mem_cons.mp h with h | h
      · exact Or.inr ⟨w, rfl, rfl, h⟩
      · exact Or.inl (congrArg some (List.mem_singleton.mp h).symm)

theorem AbsSt.bound_iff (A : AbsSt) (q : Nat) : A.bound q = true ↔ q ∈ A.env.map (·.1) := by
  unfold AbsSt.bound
  rw [List.find?_isSome, List.mem_map]
  constructor
  · rintro ⟨x, hx, he⟩; exact ⟨x, hx, beq_iff_eq.mp he⟩
  · rintro ⟨x, hx, he⟩; exact ⟨x, hx, beq_iff_eq.mpr he⟩

theorem bound_step_inv (A : AbsSt) (i : Instr) (q : Nat) (h : (abstractStep A i).bound q = true) :
    A.bound q = true ∨ q ∈ i.binds := by
  obtain ⟨t, ht⟩ := abstractStep_env A i
  rw [AbsSt.bound_iff, ht, List.map_append, List.mem_append, List.map_map] at h
  rcases h with h | h
  · obtain ⟨x, hx, rfl⟩ := List.mem_map.mp h
    exact Or.inr hx
  · exact Or.inl ((AbsSt.bound_iff A q).mpr h)

theorem bound_fold_inv (pre : List Instr) : ∀ (A : AbsSt) (q : Nat), (pre.foldl abstractStep A).bound q = true →
    A.bound q = true ∨ ∃ j ∈ pre, q ∈ j.binds := by
  induction pre with
  | nil => intro A q h; exact Or.inl h
  | cons i rest ih =>
    intro A q h
    rcases ih _ q h with h1 | ⟨j, hj, hq⟩
    · rcases bound_step_inv A i q h1 with h2 | h2
      · exact Or.inl h2
      · exact Or.inr ⟨i, List.mem_cons_self, h2⟩
    · exact Or.inr ⟨j, List.mem_cons_of_mem _ hj, hq⟩

theorem readsBound_split (pre : List Instr) (i : Instr) (post : List Instr) : ∀ (A : AbsSt),
    readsBound (pre ++ i :: post) A = true → ∀ q ∈ i.reads, (pre.foldl abstractStep A).bound q = true := by
  induction pre with
  | nil =>
    intro A h q hq
    simp only [List.nil_append, readsBound, Bool.and_eq_true, List.all_eq_true] at h
    exact h.1 q hq
  | cons x xs ih =>
    intro A h q hq
    simp only [List.cons_append, readsBound, Bool.and_eq_true] at h
    exact ih _ h.2 q hq

theorem unwrittenReads_mem (rest : List Instr) : ∀ (written : List Nat) (pos p r : Nat),
    (p, r) ∈ unwrittenReads rest written pos →
    ∃ pre i post, rest = pre ++ i :: post ∧ p = pos + pre.length ∧ r ∈ i.reads ∧ r ∉ written ∧ r ∉ resultRegs pre := by
  induction rest with
  | nil => intro _ _ _ _ h; cases h
  | cons i rest ih =>
    intro written pos p r h
    rcases List.mem_append.mp h with h | h
    · obtain ⟨q, hq, he⟩ := List.mem_map.mp h
      cases he
      obtain ⟨hq, hnw⟩ := List.mem_filter.mp hq
      refine ⟨[], i, rest, rfl, rfl, hq, ?_, List.not_mem_nil⟩
      simpa only [Bool.not_eq_true', List.contains_eq_mem, decide_eq_false_iff_not] using hnw
    · obtain ⟨pre, j, post, hd, hp, hr, hnw, hnp⟩ := ih _ (pos + 1) p r h
      refine ⟨i :: pre, j, post, by rw [hd]; rfl, by rw [hp, List.length_cons, Nat.add_assoc, Nat.add_comm 1], hr, ?_⟩
      -- what `i` writes is in the accumulator of the recursive call and in `resultRegs (i :: pre)` alike
      rw [resultRegs, List.filterMap_cons]
      cases hw : i.writes with
      | none => rw [hw] at hnw; exact ⟨hnw, hnp⟩
      | some w =>
        rw [hw, List.mem_cons, not_or] at hnw
        exact ⟨hnw.2, fun hm => (List.mem_cons.mp hm).elim hnw.1 hnp⟩

theorem c08_of_rdInv {s : St} (h : RdInv s) : ∀ p r, (p, r) ∈ unwrittenReads s.root.context [] 0 →
    isF7alias s.root.context p r = true := by
  intro p r hm
  obtain ⟨pre, i, post, hd, hp, hr, _, hnp⟩ := unwrittenReads_mem _ _ _ _ _ hm
  simp only [Nat.zero_add] at hp
  have hb := readsBound_split pre i post AbsSt.init (by rw [← hd]; exact h.ok) r hr
  obtain ⟨_, hlw⟩ := h.lw pre i post hd r hr
  rcases bound_fold_inv pre AbsSt.init r hb with h0 | ⟨j, hj, hq⟩
  · simp [AbsSt.bound, AbsSt.init] at h0
  -- an earlier instruction `j` binds `r`: not as its result register (nothing earlier writes `r`), so
  -- as the register after the result of a call or field read
  rcases of_mem_binds hq with hw | ⟨w, hw, ha, rfl⟩
  · exact absurd (List.mem_filterMap.mpr ⟨j, hj, hw⟩) hnp
  · unfold isF7alias
    rw [Bool.and_eq_true, Bool.and_eq_true]
    refine ⟨⟨decide_eq_true (Nat.succ_pos w), ?_⟩, List.any_eq_true.mpr ⟨j, ?_, ?_⟩⟩
    · rw [Bool.not_eq_true', List.contains_eq_mem, decide_eq_false_iff_not, hd, resultRegs, List.filterMap_append,
        List.mem_append, not_or]
      exact ⟨hnp, fun hm => Nat.lt_irrefl _ (hlw _ hm)⟩
    · rw [hd, hp, List.take_left' rfl]
      exact hj
    · unfold Instr.alias at ha
      split at ha
      · exact decide_eq_true (congrArg (· + 1) (Option.some.inj hw))
      · exact decide_eq_true (congrArg (· + 1) (Option.some.inj hw))
      · cases ha

theorem P_C08_stack_F7 {s : St} (h : RdInv s) (i : Nat) :
    ∀ t ∈ P_C08_stack s.root.context i, t = "F7:operand-names-register-after-call-or-field-read" := by
  intro t ht
  unfold P_C08_stack at ht
  simp only [List.mem_map] at ht
  obtain ⟨⟨p, r⟩, hm, rfl⟩ := ht
  dsimp only
  rw [c08_of_rdInv h p r hm]
  rfl

/-- **C08 (partial: up to the recorded finding F7)** — on the model's result the output predicate
reports only instances of F7, for every program -/
theorem C08_partial (p : Program) :
    ∀ t ∈ P_C08g p (run p), t = "F7:operand-names-register-after-call-or-field-read" := by
  intro t ht
  unfold P_C08g at ht
  split at ht
  · rename_i hacc
    obtain ⟨hnp, he⟩ := accepted_of_wf hacc
    unfold P_C08 at ht
    rw [List.mem_eraseDups, List.mem_flatMap] at ht
    obtain ⟨⟨b, i⟩, hbi, ht⟩ := ht
    have hb := List.fst_mem_of_mem_zipIdx hbi
    rw [roots_eq, List.mem_map] at hb
    obtain ⟨f, hf, rfl⟩ := hb
    obtain ⟨hg, hn, hok, hfe⟩ := accepted_mem p hnp he hf
    exact P_C08_stack_F7 (T2_function hg hn f hok hfe).2.1 i t ht
  · cases ht

/-- the full statement (no register is read before it is written) fails on the current tree: the
analysis of `fn m() -> u8 { return g() + 1 }` reads register 2, which nothing writes -/
theorem C08_full_false :
    unwrittenReads (run [.fn ⟨['g'], [], .prim .u8, [.ret (.mk (.lit (.u8 1)) none)]⟩,
      .fn ⟨['m'], [], .prim .u8, [.ret (.mk (.call ['g'] []) (some (.plus, .mk (.lit (.u8 1)) none)))]⟩]).roots[1]!.context [] 0
      = [(1, 2)] := by decide +kernel

theorem driver_C08 (p : Program) : ∀ t ∈ failingOf .C08 p (run p) true, t ∈ knownTagsOf .C08 := by
  intro t ht
  have := C08_partial p t ht
  rw [this]; simp [knownTagsOf]

end SemVerif
