import SemVerif.Props.C06
import SemVerif.Lemmas.TypedFull
import SemVerif.Driver
/-!
# Property C04 — the emitted instruction stack is well-typed

`typedStack` (Spec/Typed.lean) scans a function stack once, remembering the type each register
was produced with and the value record of each declaration, and checks on every instruction that
the recorded types are mutually consistent (operand against producer, both sides of operations and
comparisons, call arguments against the recorded signature, let / assignment against the
declaration, returns against the result type, constants and callees against the global tables of the
same run).

`C04`: on the model's result the output predicate reports nothing, for every program: for an
accepted program the rule checker admits (`WellFormedB`: no violation, enforced or not — the domain
of the property), the typed scan of every function stack reports nothing.  The two rules the
analyzer does not enforce (argument count, F8; type of a nested return, F9) are transported from the rule checker to the stack through the
abstract reading (`Lemmas/RuleLock.lean`, `Lemmas/TypedFull.lean`).

`C04_scan`: for every accepted program, every function and every instruction of its stack, every
check passes — except the two checks that the recorded findings F8 (argument count) and F9 (type of
a return nested in an if / loop body) can fail (`TyBad.known`).  The invariant is threaded through
the T2 induction (`TOK` in `Trans`, `DRel`, `Quiet`), so it holds for every body, nesting depth and
chain length.
-/
namespace SemVerif

/-- **C04 (scan form)** — accepted programs: on every function stack the typed scan reports nothing
but the checks F8 / F9 leave open -/
theorem C04_scan (p : Program) (hnp : (run p).panic = none) (hacc : (run p).errors = []) :
    ∀ fb ∈ p.fnDecls.zip (run p).roots,
      ∀ pb ∈ typedGo (fun c => assocGet c.name (run p).consts == some c) (fun fd => assocGet fd.name (run p).funcs == some fd)
          fb.1.result.toTy fb.2.context TyEnv.init 0,
        ∃ i, fb.2.context[pb.1]? = some i ∧ pb.2.known i = true := by
  rintro ⟨f, b⟩ hfb
  obtain ⟨hg, hn, hok, he⟩ := accepted_mem p hnp hacc (List.of_mem_zip hfb).1
  cases root_of_zip p hfb
  exact (T2_function hg hn f hok he).2.2.1

/-- the typed scan of every function stack of an accepted, rule-abiding program reports nothing -/
theorem C04_stacks (p : Program) (hnp : (run p).panic = none) (hacc : (run p).errors = []) (hwf : WellFormedB p = true) :
    ∀ fb ∈ p.fnDecls.zip (run p).roots, typedStack (run p).funcs (run p).consts fb.1 fb.2.context = [] := by
  rintro ⟨f, b⟩ hfb
  obtain ⟨hg, hn, hok, he⟩ := accepted_mem p hnp hacc (List.of_mem_zip hfb).1
  cases root_of_zip p hfb
  have hchk : checkFn p.rglobals f = [] := by
    unfold WellFormedB refCheck at hwf
    dsimp only at hwf
    rw [List.isEmpty_iff, List.append_eq_nil_iff] at hwf
    exact flatten_eq_nil_mem hwf.2 _ (List.mem_map.mpr ⟨f, (List.of_mem_zip hfb).1, rfl⟩)
  unfold typedStack
  exact congrArg (List.map _) (typed_function hg hn f hok he hchk)

/-- **C04** — the output predicate of the property holds on the model's result for every program -/
theorem C04 (p : Program) : P_C04 p (run p) = [] := by
  unfold P_C04
  cases hx : acceptedWF p (run p) with
  | false => rfl
  | true =>
    obtain ⟨hnp, he⟩ := accepted_of_wf hx
    rw [if_neg (by simp), List.flatMap_eq_nil_iff]
    rintro ⟨⟨f, b⟩, i⟩ hm
    dsimp only
    rw [C04_stacks p hnp he ((Bool.and_eq_true _ _).mp hx).2 (f, b) (List.fst_mem_of_mem_zipIdx hm)]
    rfl

/-- non-vacuity: `exampleT2` is accepted and admitted by the rule set, and its function stacks are not
empty -/
example : acceptedWF exampleT2 (run exampleT2) = true ∧ ((run exampleT2).roots.map (·.context.length)) ≠ [] := by
  decide +kernel

/-- the scan is not trivially quiet: an operation whose operands are stamped with different types, and
a return of a `bool` from a function declared to return `u8`, are both reported -/
example : (typedGo (fun _ => true) (fun _ => true) (.prim .u8)
    [.exprOp .plus ⟨.prim .u8, .prim (.u8 1)⟩ ⟨.prim .u16, .prim (.u16 2)⟩ 1, .fnReturn ⟨.prim .bool, .prim (.bool true)⟩]
    TyEnv.init 0).map (fun pb => (pb.1, pb.2.msg)) =
    [(0, "operation-operands-differ"), (1, "return-type-differs-from-result-type")] := by
  decide +kernel

theorem driver_C04 (p : Program) : failingOf .C04 p (run p) true = [] := C04 p

end SemVerif
