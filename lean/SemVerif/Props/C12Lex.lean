import SemVerif.Props.C12
import SemVerif.Props.C03
import SemVerif.Driver
/-!
# Property C12, second sentence read lexically

"Every read or assignment carries a value record identical to the one its declaration introduced":
`C12` proves that the record is the one *a* declaration of that internal name introduced, for every
program; which declaration is "its" declaration is a matter of lexical scoping, and for accepted
well-formed programs that is theorem T2 through the resolver projection (as in C03).
-/
namespace SemVerif

/-- **C12 (with the lexical clause)** — the output predicate the check evaluates for C12 holds on the
model's result for every program -/
theorem C12_lexical (p : Program) : P_C12g p (run p) = [] := by
  unfold P_C12g
  rw [C12, List.nil_append]
  cases h : acceptedWF p (run p) with
  | false => rfl
  | true => exact cmp_denotePairs p h _ _

theorem driver_C12 (p : Program) : failingOf .C12 p (run p) true = [] := C12_lexical p

end SemVerif
