import SemVerif.Props.C10Res
import SemVerif.Props.C11
import SemVerif.Lemmas.FlowSim
import SemVerif.Lemmas.FlowAna
import SemVerif.Props.C06
import SemVerif.Driver
/-!
# Property C05 — the instruction stack preserves the program's control flow

Semantics (`Spec/Flow.lean`, DESIGN §3.4): the structured source (`FnDecl.flow`: effect events
numbered in evaluation order, `if`/`else`, `loop`, `break`, `continue`, `return`) is run by
`runList`, the stack by `runJump`, both driven by a sequence of condition outcomes; `agree` says
that they produce the same events in the same order and end the same way (returned / out of
outcomes), with prefix-comparable traces when a step budget runs out on one side.

`C05_partial` (family T4): for every accepted program and every function that matches neither
recorded finding F2 (an `if` that is not the last statement of an if/else body) nor F3 (a loop with a
loop-level return and a break), `agree` holds **for every outcome sequence and every step budget**
— `flowCheck` finds no disagreement for any bound.  `C05`: on such programs the output predicate
reports nothing.  The analyzer emits laid-out code (`T4_function`), laid-out code simulates the
structured run (`lay_agree`), and the stack never jumps to an unset label or runs past its end
(`wf_function`, from `C10_resolved_function` and `C11_function`).
For functions that match F2 or F3 the property is false in general (the findings).  F2 is characterised:
`C05F2_function` / `C05F2_partial` — every function that does not match F3 agrees with its source *under the
F2 reading* (`FnDecl.flowF2`: what follows a nested `if` in an if/else body is dead), so `C05_upto_F2`: on
programs without F3 the predicate reports nothing but the F2 tag.  For functions that match F3 the check
applies the per-instance matcher to the implementation's stack and no theorem is claimed.
-/
namespace SemVerif

theorem findLabel_lt {stack : List Instr} {l : Name} {t : Nat} (h : findLabel stack l = some t) : t < stack.length := by
  unfold findLabel at h
  rw [List.findIdx?_eq_some_iff_getElem] at h
  exact h.1

theorem findLabel_of_set {stack : List Instr} {l : Name} (h : l ∈ setLabels stack) : ∃ t, findLabel stack l = some t := by
  unfold findLabel
  cases hf : stack.findIdx? (fun i => i.setsLabel == some l) with
  | some t => exact ⟨t, rfl⟩
  | none =>
    rw [List.findIdx?_eq_none_iff] at hf
    unfold setLabels at h
    rw [List.mem_filterMap] at h
    obtain ⟨i, hi, hs⟩ := h
    have := hf i hi
    simp [hs] at this

theorem targets_mem {stack : List Instr} {pc : Nat} {i : Instr} (h : stack[pc]? = some i) : ∀ l ∈ i.targets, l ∈ jumpTargets stack := by
  intro l hl
  unfold jumpTargets
  rw [List.mem_flatMap]
  exact ⟨i, List.mem_of_getElem? h, hl⟩

theorem runJump_wellformed (stack : List Instr) (hres : ∀ l ∈ jumpTargets stack, l ∈ setLabels stack)
    (hlast : ∃ i, stack.getLast? = some i ∧ i.isFnReturn = true) :
    ∀ (fuel pc : Nat) (os : List Bool) (tr : List Nat), pc < stack.length →
      (runJump stack fuel pc os tr).1 ≠ .badLabel ∧ (runJump stack fuel pc os tr).1 ≠ .fellOff := by
  intro fuel
  induction fuel with
  | zero => exact fun _ _ _ _ => ⟨nofun, nofun⟩
  | succ fuel ih =>
    intro pc os tr hpc
    obtain ⟨li, hli, hlr⟩ := hlast
    have hget : stack[pc]? = some stack[pc] := List.getElem?_eq_getElem hpc
    have hnext : stack[pc].isFnReturn = false → pc + 1 < stack.length := by
      intro hnr
      refine Nat.lt_of_le_of_ne hpc fun hp => ?_
      rw [List.getLast?_eq_getElem?, ← hp, Nat.add_sub_cancel, hget] at hli
      rw [← Option.some.inj hli, hnr] at hlr
      cases hlr
    have jump : ∀ l, l ∈ stack[pc].targets → ∃ t, findLabel stack l = some t ∧ t < stack.length := by
      intro l hl
      obtain ⟨t, ht⟩ := findLabel_of_set (hres l (targets_mem hget l hl))
      exact ⟨t, ht, findLabel_lt ht⟩
    generalize stack[pc] = i at hget hnext jump
    cases hr : i.isRet with
    | true => rw [jstep_ret stack hget hr]; exact ⟨nofun, nofun⟩
    | false =>
      rw [runJump_some stack hget, hr, if_neg Bool.false_ne_true]
      cases ht : i.targets with
      | nil => exact ih (pc + 1) _ _ (hnext (Bool.or_eq_false_iff.mp hr).1)
      | cons a rest =>
        rw [ht] at jump
        cases rest with
        | nil =>
          obtain ⟨t, hl, hlt⟩ := jump a (List.mem_singleton.mpr rfl)
          simp only [hl]
          exact ih t os tr hlt
        | cons b rest =>
          cases os with
          | nil => exact ⟨nofun, nofun⟩
          | cons o os =>
            obtain ⟨t, hl, hlt⟩ := jump (if o then a else b) (by cases o <;> simp)
            simp only [hl]
            exact ih t os tr hlt

theorem fn_of_zip (p : Program) : ∀ x ∈ p.fnDecls.zip (run p).roots,
    x.1 ∈ p.fnDecls ∧ x.2 = (functionBody (pass2 p (pass1 p GState.init)).globals x.1).root ∧
    ((run p).errors = [] → (functionBody (pass2 p (pass1 p GState.init)).globals x.1).errors = []) := by
  intro x hx
  have hr : (run p).roots = p.fnDecls.map fun f => (functionBody (pass2 p (pass1 p GState.init)).globals f).root := by
    unfold run; simp [List.map_map, Function.comp_def, fns_eq_fnDecls p]
  rw [hr] at hx
  have hmem := (List.of_mem_zip hx).1
  refine ⟨hmem, mem_zip_map_self _ _ x.1 x.2 hx, fun he => ?_⟩
  unfold run at he
  dsimp only at he
  rw [List.append_eq_nil_iff] at he
  exact flatten_eq_nil_mem he.2 _ (List.mem_map.mpr ⟨functionBody (pass2 p (pass1 p GState.init)).globals x.1,
    List.mem_map.mpr ⟨x.1, by rw [fns_eq_fnDecls]; exact hmem, rfl⟩, rfl⟩)

theorem wf_function (g : Globals) (f : FnDecl) (he : (functionBody g f).errors = []) (hf3 : f.hasF3 = false) :
    (∀ l ∈ jumpTargets (functionBody g f).root.context, l ∈ setLabels (functionBody g f).root.context) ∧
    (∃ i, (functionBody g f).root.context.getLast? = some i ∧ i.isFnReturn = true) := by
  constructor
  · intro l hl
    rcases Classical.em (l ∈ setLabels (functionBody g f).root.context) with h | h
    · exact h
    · exfalso
      have hu : l ∈ unresolvedTargets (functionBody g f).root.context := by
        unfold unresolvedTargets
        rw [List.mem_eraseDups, List.mem_filter]
        exact ⟨hl, by simpa using h⟩
      have := (C10_resolved_function g f l hu).2
      rw [hf3] at this; cases this
  · have h11 := C11_function g f 0 he
    unfold P_C11_block at h11
    dsimp only at h11
    rw [List.append_eq_nil_iff] at h11
    have h1 := (List.append_eq_nil_iff.mp (List.append_eq_nil_iff.mp h11.1).1).1
    cases hl : (functionBody g f).root.context.getLast? with
    | none => rw [hl] at h1; simp at h1
    | some i =>
      rw [hl] at h1
      refine ⟨i, rfl, ?_⟩
      cases hi : i.isFnReturn with
      | true => rfl
      | false => simp [hi] at h1

/-- **C05 (partial)** — accepted programs, functions outside finding F3: the emitted stack is a
well-formed jump program, for every outcome sequence, fuel and start position -/
theorem C05_jump_program_wellformed (p : Program) (hacc : (run p).accepted = true) :
    ∀ x ∈ p.fnDecls.zip (run p).roots, x.1.hasF3 = false →
      ∀ (fuel pc : Nat) (os : List Bool) (tr : List Nat), pc < x.2.context.length →
        (runJump x.2.context fuel pc os tr).1 ≠ .badLabel ∧ (runJump x.2.context fuel pc os tr).1 ≠ .fellOff := by
  intro x hx hf3
  obtain ⟨_, hb, he⟩ := fn_of_zip p x hx
  rw [hb]
  obtain ⟨hres, hlast⟩ := wf_function _ x.1 (he ((accepted_iff _).mp hacc).2) hf3
  exact runJump_wellformed _ hres hlast

/-- **T4 under the F2 reading** for one function analysed without error, outside the finding F3: the
jump program does what the source does *when the statements after a nested `if` in an if / else body
are dead* — for every outcome sequence and every fuel.  For a function without the F2 pattern this
is `C05_function`. -/
theorem C05F2_function {g : Globals} {rg : RGlobals} (hg : GlobRel g rg) (hn : GNames g) (f : FnDecl)
    (hok : BodyStmt.anaOKL f.body = true) (hf3 : f.hasF3 = false)
    (he : (functionBody g f).errors = []) (outcomes : List Bool) (fuel : Nat) :
    agree f.flowF2 (functionBody g f).root.context outcomes fuel = none := by
  obtain ⟨hl, hend⟩ := T4F2_function hg hn f hok hf3 he
  obtain ⟨hres, hlast⟩ := wf_function g f he hf3
  have hpos : 0 < (functionBody g f).root.context.length := by
    obtain ⟨i, hi, _⟩ := hlast
    cases hc : (functionBody g f).root.context with
    | nil => rw [hc] at hi; cases hi
    | cons _ _ => exact Nat.succ_pos _
  exact lay_agree _ _ hl (C10_nodup_function g f) hend
    (fun fuel os => runJump_wellformed _ hres hlast fuel 0 os [] hpos) outcomes fuel

/-- **T4** for one function: analysed without error, outside the findings F2 and F3 — the jump
program and the structured source agree for every outcome sequence and every fuel -/
theorem C05_function {g : Globals} {rg : RGlobals} (hg : GlobRel g rg) (hn : GNames g) (f : FnDecl)
    (hok : BodyStmt.anaOKL f.body = true) (hf2 : f.hasF2 = false) (hf3 : f.hasF3 = false)
    (he : (functionBody g f).errors = []) (outcomes : List Bool) (fuel : Nat) :
    agree f.flow (functionBody g f).root.context outcomes fuel = none := by
  rw [← flowF2_eq f hf2]
  exact C05F2_function hg hn f hok hf3 he outcomes fuel

theorem flowCheckOn_none (flow : List Flow) (stack : List Instr) (k fuel : Nat)
    (h : ∀ o, agree flow stack o fuel = none) : flowCheckOn flow stack k fuel = none := by
  unfold flowCheckOn
  rw [List.findSome?_eq_none_iff]
  intro o _
  rw [h o]; rfl

theorem C05_lift (p : Program) (hacc : (run p).accepted = true) (flowOf : FnDecl → List Flow) (P : FnDecl → Prop)
    (hfn : ∀ (f : FnDecl), BodyStmt.anaOKL f.body = true → P f →
      (functionBody (pass2 p (pass1 p GState.init)).globals f).errors = [] → ∀ (o : List Bool) (fuel : Nat),
      agree (flowOf f) (functionBody (pass2 p (pass1 p GState.init)).globals f).root.context o fuel = none) :
    ∀ x ∈ p.fnDecls.zip (run p).roots, P x.1 →
      ∀ (k fuel : Nat), flowCheckOn (flowOf x.1) x.2.context k fuel = none := by
  intro x hx hP k fuel
  obtain ⟨hmem, hb, he⟩ := fn_of_zip p x hx
  have hnp := (accepted_iff _).mp hacc
  have hok := anaOK_of_no_panic p hnp.1
  unfold AnaOKB at hok
  rw [List.all_eq_true] at hok
  rw [hb]
  exact flowCheckOn_none _ _ _ _ (fun o => hfn x.1 (hok x.1 hmem) hP (he hnp.2) o fuel)

/-- **C05 (outside the findings F2 and F3)** — for every accepted program and every function that
matches neither finding, the emitted stack, run as a jump program, does what the structured source
does: for every sequence of condition outcomes and every step budget, the same effects in the same
order and the same kind of end (`agree`), hence `flowCheck` finds no disagreement for any bound -/
theorem C05_partial (p : Program) (hacc : (run p).accepted = true) :
    ∀ x ∈ p.fnDecls.zip (run p).roots, x.1.hasF2 = false → x.1.hasF3 = false →
      ∀ (k fuel : Nat), flowCheck x.1 x.2.context k fuel = none := by
  intro x hx hf2 hf3 k fuel
  have hrel := rel_run p
  exact C05_lift p hacc FnDecl.flow (fun f => f.hasF2 = false ∧ f.hasF3 = false)
    (fun f hok hP he o fuel => C05_function (globRel_of_rel hrel) (gnames_of_rel hrel) f hok hP.1 hP.2 he o fuel)
    x hx ⟨hf2, hf3⟩ k fuel

/-- **the finding F2 is exactly what it is recorded as** — for every accepted program and every
function that does not match F3 (it may match F2), the emitted stack agrees with the source *under
the F2 reading* for every outcome sequence and every step budget: whatever an F2 function does
differently from its source is the skipping of the statements after a nested `if`, nothing else.
This is the matcher the check applies to the implementation's stacks (`flowCheckF2`). -/
theorem C05F2_partial (p : Program) (hacc : (run p).accepted = true) :
    ∀ x ∈ p.fnDecls.zip (run p).roots, x.1.hasF3 = false →
      ∀ (k fuel : Nat), flowCheckF2 x.1 x.2.context k fuel = none := by
  intro x hx hf3 k fuel
  have hrel := rel_run p
  exact C05_lift p hacc FnDecl.flowF2 (fun f => f.hasF3 = false)
    (fun f hok hP he o fuel => C05F2_function (globRel_of_rel hrel) (gnames_of_rel hrel) f hok hP he o fuel)
    x hx hf3 k fuel

theorem mem_P_C05 {p : Program} {t : String} (ht : t ∈ P_C05 p (run p)) :
    (run p).accepted = true ∧ ∃ f b why, (f, b) ∈ p.fnDecls.zip (run p).roots ∧
      flowCheck f b.context c05Outcomes c05Fuel = some why ∧
      (t = "F2:nested-if-in-if-body-reuses-the-enclosing-end-label" ∨
        ¬ (f.hasF2 && (flowCheckF2 f b.context c05Outcomes c05Fuel).isNone) = true) := by
  unfold P_C05 at ht
  cases hx : acceptedWF p (run p) with
  | false => rw [hx] at ht; cases ht
  | true =>
    rw [hx, Bool.not_true, if_neg Bool.false_ne_true, List.mem_eraseDups, List.mem_flatMap] at ht
    obtain ⟨⟨⟨f, b⟩, i⟩, hx', ht⟩ := ht
    unfold acceptedWF at hx
    refine ⟨(Bool.and_eq_true_iff.mp hx).1, f, b, ?_⟩
    dsimp only at ht
    cases hfc : flowCheck f b.context c05Outcomes c05Fuel with
    | none => rw [hfc] at ht; cases ht
    | some why =>
      rw [hfc] at ht
      refine ⟨why, List.fst_mem_of_mem_zipIdx hx', rfl, ?_⟩
      dsimp only at ht
      by_cases h : (f.hasF2 && (flowCheckF2 f b.context c05Outcomes c05Fuel).isNone) = true
      · rw [if_pos h] at ht
        exact .inl (List.mem_singleton.mp ht)
      · exact .inr h

/-- a program none of whose functions matches F2 or F3: the output predicate reports nothing -/
theorem C05 (p : Program) (h23 : ∀ f ∈ p.fnDecls, f.hasF2 = false ∧ f.hasF3 = false) : P_C05 p (run p) = [] := by
  rw [List.eq_nil_iff_forall_not_mem]
  intro t ht
  obtain ⟨ha, f, b, why, hfb, hfc, _⟩ := mem_P_C05 ht
  have h2 := h23 f (List.of_mem_zip hfb).1
  rw [C05_partial p ha (f, b) hfb h2.1 h2.2] at hfc
  cases hfc

/-- a program none of whose functions matches F3: the output predicate reports nothing but instances
of the recorded finding F2 -/
theorem C05_upto_F2 (p : Program) (h3 : ∀ f ∈ p.fnDecls, f.hasF3 = false) :
    ∀ t ∈ P_C05 p (run p), t = "F2:nested-if-in-if-body-reuses-the-enclosing-end-label" := by
  intro t ht
  obtain ⟨ha, f, b, why, hfb, hfc, h | h⟩ := mem_P_C05 ht
  · exact h
  · exfalso
    have hf3 := h3 f (List.of_mem_zip hfb).1
    cases hf2 : f.hasF2 with
    | false => rw [C05_partial p ha (f, b) hfb hf2 hf3] at hfc; cases hfc
    | true => rw [hf2, C05F2_partial p ha (f, b) hfb hf3] at h; exact h rfl

/-- non-vacuity of the F2 reading: `if c { if d { g(1) } g(2) }` — accepted, matches F2 and not F3,
and the F2 reading differs from the source (it drops the call after the nested `if`) -/
def exampleF2 : Program :=
  [.fn ⟨['g'], [(['a'], .prim .u8)], .prim .u8, [.ret (.mk (.var ['a']) none)]⟩,
   .fn ⟨['m'], [], .prim .u8,
      [.ifS (.mk (.single (.mk (.lit (.bool true)) none))
          (.ifb [.ifS (.mk (.single (.mk (.lit (.bool false)) none)) (.ifb [.call ⟨['g'], [.mk (.lit (.u8 1)) none]⟩]) none none),
                 .call ⟨['g'], [.mk (.lit (.u8 2)) none]⟩]) none none),
       .ret (.mk (.lit (.u8 0)) none)]⟩]

mutual
def Flow.nodes : Flow → Nat
  | .ite t e => 1 + Flow.nodesL t + Flow.nodesL e
  | .loop b => 1 + Flow.nodesL b
  | _ => 1
def Flow.nodesL : List Flow → Nat
  | [] => 0
  | x :: xs => Flow.nodes x + Flow.nodesL xs
end

example : (run exampleF2).accepted = true ∧
    (exampleF2.fnDecls.map fun f => (f.hasF2, f.hasF3, Flow.nodesL f.flow, Flow.nodesL f.flowF2)) =
      [(false, false, 1, 1), (true, false, 5, 4)] := by
  constructor <;> decide +kernel

/-- non-vacuity: a function with a loop, a break in a nested if, an if / else and a call is accepted,
matches neither finding, and its flow is not trivial -/
def exampleFlow : Program :=
  [.fn ⟨['g'], [(['a'], .prim .u8)], .prim .u8, [.ret (.mk (.var ['a']) none)]⟩,
   .fn ⟨['m'], [(['x'], .prim .u8)], .prim .u8,
      [.letB ⟨['y'], true, none, .mk (.lit (.u8 0)) none⟩,
       .loop [.ifS (.mk (.single (.mk (.lit (.bool true)) none)) (.loopb [.brk]) none none),
              .bind ⟨['y'], .mk (.call ['g'] [.mk (.var ['y']) none]) none⟩],
       .ifS (.mk (.single (.mk (.lit (.bool false)) none))
          (.ifb [.bind ⟨['y'], .mk (.lit (.u8 1)) none⟩])
          (some (.ifb [.bind ⟨['y'], .mk (.lit (.u8 2)) none⟩])) none),
       .ret (.mk (.var ['y']) none)]⟩]

example : (run exampleFlow).accepted = true ∧ (exampleFlow.fnDecls.map fun f => (f.hasF2, f.hasF3, f.flow.length)) =
    [(false, false, 1), (false, false, 4)] := by
  constructor <;> decide +kernel

theorem driver_C05 (p : Program) (h3 : ∀ f ∈ p.fnDecls, f.hasF3 = false) : ∀ t ∈ failingOf .C05 p (run p) true, t ∈ knownTagsOf .C05 := by
  intro t ht
  have := C05_upto_F2 p h3 t ht
  rw [this]; simp [knownTagsOf]

end SemVerif
