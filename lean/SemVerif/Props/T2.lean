import SemVerif.Lemmas.T2Fn
import SemVerif.Lemmas.AttrIdx
import SemVerif.Props.C14
/-!
# Family T2 at program level — the emitted stacks denote the source

`T2`: for every program that the model accepts (no panic, no error), the abstract reading of
each function's root stack (`abstractStack`: register operands expanded through the instructions
that wrote them, internal names replaced by declaration indices, calls as events in evaluation
order) is the statement list that the source function denotes under the independent lexical
resolver and the precedence fold (`specStmts false`).  No bound on nesting depth, chain length or
number of functions.  C03, C06, C08 and C19 are projections of this equation.
-/
namespace SemVerif

theorem gnames_of_rel {gs : GState} {ds : DS} (h : Rel gs ds) : GNames gs.globals := by
  refine ⟨?_, ?_, ?_⟩
  rotate_left 2
  · intro n name as ht
    have hm := assocGet_mem n gs.types _ ht
    rw [h.types, List.mem_map] at hm
    obtain ⟨d, _, hd⟩ := hm
    simp only [tyEntry, Prod.mk.injEq, Ty.struct.injEq] at hd
    rw [← hd.2.2]
    exact attrsToMap_idxOK d.attrs
  · intro n c hc
    have hm := assocGet_mem n gs.consts c hc
    rw [h.consts, List.mem_filterMap] at hm
    obtain ⟨t, _, ht⟩ := hm
    cases t with
    | const d => simp [constEntry] at ht; obtain ⟨rfl, rfl⟩ := ht; rfl
    | _ => simp [constEntry] at ht
  · intro n f hf
    have hm := assocGet_mem n gs.funcs f hf
    rw [h.funcs, List.mem_filterMap] at hm
    obtain ⟨t, _, ht⟩ := hm
    cases t with
    | fn d => simp [funcEntry] at ht; obtain ⟨rfl, rfl⟩ := ht; rfl
    | _ => simp [funcEntry] at ht

theorem flatten_eq_nil_mem {α : Type} {l : List (List α)} (h : l.flatten = []) : ∀ x ∈ l, x = [] := by
  intro x hx
  rw [List.flatten_eq_nil_iff] at h
  exact h x hx

theorem accepted_iff (r : Result) : r.accepted = true ↔ r.panic = none ∧ r.errors = [] := by
  unfold Result.accepted
  simp [Option.isNone_iff_eq_none, List.isEmpty_iff]

theorem accepted_of_wf {p : Program} {r : Result} (h : acceptedWF p r = true) : r.panic = none ∧ r.errors = [] :=
  (accepted_iff r).mp ((Bool.and_eq_true _ _).mp h).1

theorem map_eq_zip {α β γ : Type} (f : β → γ) (g : α → γ) : ∀ (l1 : List β) (l2 : List α),
    l1.map f = l2.map g → ∀ x ∈ l2.zip l1, g x.1 = f x.2
  | [], l2, _ => by intro x hx; simp at hx
  | b :: bs, [], _ => by intro x hx; simp at hx
  | b :: bs, a :: as, h => by
    simp only [List.map_cons, List.cons.injEq] at h
    intro x hx
    simp only [List.zip_cons_cons, List.mem_cons] at hx
    rcases hx with rfl | hx
    · exact h.1.symm
    · exact map_eq_zip f g bs as h.2 x hx

theorem roots_eq (p : Program) :
    (run p).roots = p.fnDecls.map fun f => (functionBody (pass2 p (pass1 p GState.init)).globals f).root :=
  (List.map_map ..).trans (congrArg _ (fns_eq_fnDecls p))

theorem root_of_zip (p : Program) {f : FnDecl} {b : Block} (h : (f, b) ∈ p.fnDecls.zip (run p).roots) :
    b = (functionBody (pass2 p (pass1 p GState.init)).globals f).root :=
  (map_eq_zip id _ _ _ ((List.map_id _).trans (roots_eq p)) (f, b) h).symm

/-- what acceptance of a program means for each of its functions: tables related to those of the rule
checker, a body the analyzer goes through, no error -/
theorem accepted_mem (p : Program) (hnp : (run p).panic = none) (hacc : (run p).errors = []) {f : FnDecl} (hf : f ∈ p.fnDecls) :
    GlobRel (pass2 p (pass1 p GState.init)).globals p.rglobals ∧ GNames (pass2 p (pass1 p GState.init)).globals ∧
    BodyStmt.anaOKL f.body = true ∧ (functionBody (pass2 p (pass1 p GState.init)).globals f).errors = [] := by
  have hrel := rel_run p
  have hok := anaOK_of_no_panic p hnp
  unfold AnaOKB at hok
  rw [List.all_eq_true] at hok
  unfold run at hacc
  rw [fns_eq_fnDecls] at hacc
  exact ⟨globRel_of_rel hrel, gnames_of_rel hrel, hok f hf,
    flatten_eq_nil_mem (List.append_eq_nil_iff.mp hacc).2 _ (List.mem_map.mpr ⟨_, List.mem_map.mpr ⟨f, hf, rfl⟩, rfl⟩)⟩

/-- **T2** — accepted programs: every root stack denotes its source function -/
theorem T2 (p : Program) (hnp : (run p).panic = none) (hacc : (run p).errors = []) :
    (run p).roots.map (fun b => abstractStack b.context) = p.fnDecls.map (specStmts false p.rglobals) := by
  unfold run
  dsimp only
  rw [List.map_map, List.map_map, fns_eq_fnDecls]
  apply List.map_congr_left
  intro f hf
  obtain ⟨hg, hn, hok, he⟩ := accepted_mem p hnp hacc hf
  exact (T2_function hg hn f hok he).1

end SemVerif
