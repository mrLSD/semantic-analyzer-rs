import SemVerif.Spec.Preds
import SemVerif.Inventory
import SemVerif.Lemmas.StmtSteps
import SemVerif.Lemmas.Frames
import SemVerif.Driver
/-!
# Property C11 — each accepted function ends in one return of the right form

`Inv11` is the invariant of the whole analysis of a function body:
* `flag`: every live block carries the same manual-return flag, and the flag says whether the
  root stack already holds a jump-to-return (the flag is raised on the block and all its ancestors
  together with the push, and a new child inherits it);
* `eq`: the jump-to-returns of the root stack are exactly those of its finished children plus
  those of its live child — nothing pushes one at function level.

`Keep s s'` (invariant preserved, number of function returns in the root stack unchanged) is shown
for every expression-level step and every label/jump push (`FStep`), for entering and leaving a
block, and for a nested return.  A control construct is such steps around what runs in a child block
(`Around`, Lemmas/Steps.lean), so `KB` (`Keep` at unchanged nesting depth) holds for all of them by
induction over the nested bodies (`kb_ind : BodyInd`); the function-level statement loop then shows
that an analysis that reports no error pushes exactly one function return, as the last instruction,
of the form the flag selects.
-/
namespace SemVerif

def cntF (l : List Instr) : Nat := countP Instr.isFnReturn l
def cntJ (l : List Instr) : Nat := countP Instr.isJumpReturn l

theorem cntJ_snoc (l : List Instr) (i : Instr) : cntJ (l ++ [i]) = cntJ l + (if i.isJumpReturn then 1 else 0) := by
  unfold cntJ countP; rw [List.filter_append]; cases h : i.isJumpReturn <;> simp [List.filter, h]
theorem cntF_snoc (l : List Instr) (i : Instr) : cntF (l ++ [i]) = cntF l + (if i.isFnReturn then 1 else 0) := by
  unfold cntF countP; rw [List.filter_append]; cases h : i.isFnReturn <;> simp [List.filter, h]

theorem isRet_false {i : Instr} (h : i.isRet = false) : i.isFnReturn = false ∧ i.isJumpReturn = false := by
  unfold Instr.isRet at h; simpa using h

/-- jump-to-returns in the stacks of the finished children -/
def kidsJ (b : Block) : Nat := (b.children.map fun c => countP Instr.isJumpReturn c.context).sum
/-- jump-to-returns in the stack of the root's live child -/
def liveJ (s : St) : Nat := match s.inner.getLast? with
  | some b => cntJ b.context
  | none => 0

structure Inv11 (s : St) : Prop where
  flag : ∀ b ∈ s.frames, b.manualReturn = decide (0 < cntJ s.root.context)
  eq : cntJ s.root.context = kidsJ s.root + liveJ s

structure Keep (s s' : St) : Prop where
  f : cntF s'.root.context = cntF s.root.context
  inv : Inv11 s → Inv11 s'

theorem Keep.refl (s : St) : Keep s s := ⟨rfl, id⟩
theorem Keep.trans {a b c : St} (h1 : Keep a b) (h2 : Keep b c) : Keep a c :=
  ⟨h2.f.trans h1.f, fun h => h2.inv (h1.inv h)⟩

theorem inv11_init : Inv11 St.init := by
  refine ⟨?_, ?_⟩
  · intro b hb; simp [St.frames, St.init] at hb; subst hb; simp [St.init, Block.fresh, cntJ, countP]
  · simp [St.init, Block.fresh, cntJ, countP, kidsJ, liveJ]

/-- what the invariant sees of a live block -/
def view11 (b : Block) : Bool × Nat × Nat := (b.manualReturn, cntJ b.context, kidsJ b)

theorem liveJ_eq (s : St) : liveJ s = ((s.inner.map view11).getLast?.map (·.2.1)).getD 0 := by
  unfold liveJ
  rw [List.getLast?_map]
  cases s.inner.getLast? <;> rfl

theorem inv11_of_view {s s' : St} (h : s'.frames.map view11 = s.frames.map view11) (inv : Inv11 s) : Inv11 s' := by
  obtain ⟨hr, hi⟩ := root_inner_of_frames_map h
  have hj : cntJ s'.root.context = cntJ s.root.context := congrArg (·.2.1) hr
  have hk : kidsJ s'.root = kidsJ s.root := congrArg (·.2.2) hr
  refine ⟨fun b hb => ?_, ?_⟩
  · obtain ⟨b0, hb0, e⟩ := exists_of_map_eq h hb
    rw [hj, ← inv.flag b0 hb0]
    exact (congrArg (·.1) e).symm
  · rw [hj, hk, liveJ_eq, hi, ← liveJ_eq]
    exact inv.eq

theorem keep_mapFrames (f : Block → Block) (s : St) (hv : ∀ b, view11 (f b) = view11 b)
    (hf : ∀ b, cntF (f b).context = cntF b.context) : Keep s (s.mapFrames f) :=
  ⟨hf _, inv11_of_view (frames_map_mapFrames view11 f hv s)⟩

theorem keep_mapCur (f : Block → Block) (s : St) (hv : ∀ b, view11 (f b) = view11 b)
    (hf : ∀ b, cntF (f b).context = cntF b.context) : Keep s (s.mapCur f) :=
  ⟨root_mapCur (fun b => cntF b.context) f hf s, inv11_of_view (frames_map_mapCur view11 f hv s)⟩

theorem inv11_push (i : Instr) (s : St) (hj : i.isJumpReturn = false) (h : Inv11 s) : Inv11 (s.push i) :=
  inv11_of_view (frames_map_mapFrames view11 _ (fun b => by simp [view11, cntJ_snoc, hj, kidsJ]) s) h

theorem keep_push (i : Instr) (s : St) (hr : i.isRet = false) : Keep s (s.push i) :=
  ⟨by simp [St.push, St.mapFrames, cntF_snoc, (isRet_false hr).1], inv11_push i s (isRet_false hr).2⟩

theorem kidsJ_modifyNth (i : Instr) (h : i.isJumpReturn = false) : ∀ (k : Nat) (cs : List Block),
    ((modifyNth (fun c => { c with context := c.context ++ [i] }) k cs).map fun c => countP Instr.isJumpReturn c.context).sum =
      (cs.map fun c => countP Instr.isJumpReturn c.context).sum
  | _, [] => by unfold modifyNth; rfl
  | 0, c :: cs => by
    have := cntJ_snoc c.context i
    unfold cntJ at this
    simp [modifyNth, this, h]
  | k + 1, c :: cs => by simp [modifyNth, kidsJ_modifyNth i h k cs]

theorem keep_pushVia (k : Nat) (i : Instr) (s : St) (hr : i.isRet = false) : Keep s (s.pushVia k i) := by
  have h1 : Keep s (s.mapCur fun b =>
      { b with children := modifyNth (fun c => { c with context := c.context ++ [i] }) k b.children }) :=
    keep_mapCur _ s (fun b => by simp only [view11, kidsJ, kidsJ_modifyNth i (isRet_false hr).2 k b.children])
      (fun _ => rfl)
  exact h1.trans (keep_push i _ hr)

theorem keep_enter (s : St) : Keep s s.enter := by
  refine ⟨rfl, fun h => ⟨?_, ?_⟩⟩
  · intro b hb
    rw [frames_enter] at hb
    rcases List.mem_cons.mp hb with rfl | hb
    · exact h.flag s.cur (cur_mem_frames s)
    · exact h.flag b hb
  · refine h.eq.trans (congrArg (kidsJ s.root + ·) ?_)
    unfold liveJ St.enter St.cur
    cases s.inner with
    | nil => rfl
    | cons b rest => simp [List.getLast?_cons_cons]

/-- the jump-to-returns of a finished block move from the live child of the root to its finished children
when the block was that child, and stay where they are otherwise -/
theorem keep_leave (s : St) : Keep s s.leave.2 := by
  refine ⟨congrArg cntF (root_leave_fields s).1, fun h => ⟨fun b hb => ?_, ?_⟩⟩
  · obtain ⟨b', hb', _, _, _, _, _, hm⟩ := mem_frames_leave s b hb
    rw [hm, (root_leave_fields s).1]
    exact h.flag b' hb'
  · rw [(root_leave_fields s).1, h.eq]
    unfold St.leave liveJ kidsJ
    cases hi : s.inner with
    | nil => simp [hi]
    | cons b rest =>
      cases rest with
      | nil => simp [cntJ]
      | cons p rest' => cases rest' <;> simp [List.getLast?_cons_cons]

/-- a nested return (jump-to-return pushed, flag raised) inside some child block -/
theorem keep_jumpRet (r : ExprResult) (s : St) (hin : s.inner ≠ []) : Keep s (s.push (.jumpFnReturn r)).setReturn := by
  have hj : ∀ l, cntJ (l ++ [.jumpFnReturn r]) = cntJ l + 1 := fun l => by simp [cntJ_snoc, Instr.isJumpReturn]
  refine ⟨?_, fun h => ⟨fun b hb => ?_, ?_⟩⟩
  · simp [St.setReturn, St.push, St.mapFrames, cntF_snoc, Instr.isFnReturn]
  · unfold St.setReturn at hb
    rw [frames_mapFrames] at hb
    obtain ⟨b0, _, rfl⟩ := List.mem_map.mp hb
    show true = decide (0 < cntJ (s.root.context ++ [.jumpFnReturn r]))
    simp [hj]
  · show cntJ (s.root.context ++ [.jumpFnReturn r]) = kidsJ s.root + _
    rw [hj, h.eq, Nat.add_assoc]
    congr 1
    unfold liveJ St.setReturn St.push St.mapFrames
    simp only [List.map_map, List.getLast?_map]
    cases hl : s.inner.getLast? with
    | none => exact absurd (List.getLast?_eq_none_iff.mp hl) hin
    | some b => exact (hj b.context).symm

theorem keep_estep {s s' : St} (st : EStep s s') : Keep s s' := by
  cases st with
  | incReg => exact keep_mapFrames _ s (fun _ => rfl) (fun _ => rfl)
  | emit i _ _ _ _ hr => exact keep_push i s hr
  | incEmit i hw _ _ _ =>
    exact Keep.trans (b := s.incReg) (keep_mapFrames _ s (fun _ => rfl) (fun _ => rfl)) (keep_push i _ (isRet_of_writes hw))
  | addErr k v l o => exact ⟨rfl, inv11_of_view rfl⟩
  | declare n v i hi _ _ _ _ =>
    have h1 : Keep s (s.insertValue n v) := keep_mapCur _ s (fun _ => rfl) (fun _ => rfl)
    have h2 : Keep (s.insertValue n v) ((s.insertValue n v).registerInner v.innerName) :=
      keep_mapFrames _ _ (fun _ => rfl) (fun _ => rfl)
    exact (h1.trans h2).trans (keep_push i _ (isRet_of_declares hi))

theorem keep_esteps {s s' : St} (h : ESteps s s') : Keep s s' := by
  induction h with
  | refl => exact Keep.refl _
  | tail _ st ih => exact ih.trans (keep_estep st)

def KB (s s' : St) : Prop := Keep s s' ∧ s'.inner.length = s.inner.length

theorem KB.refl (s : St) : KB s s := ⟨Keep.refl s, rfl⟩
theorem KB.trans {a b c : St} (h1 : KB a b) (h2 : KB b c) : KB a c := ⟨h1.1.trans h2.1, h2.2.trans h1.2⟩
theorem kb_esteps {s s' : St} (h : ESteps s s') : KB s s' := ⟨keep_esteps h, h.inner_len⟩
theorem kb_push (i : Instr) (s : St) (hr : i.isRet = false) : KB s (s.push i) := ⟨keep_push i s hr, (push_fields i s).2⟩

theorem kb_fstep {s s' : St} (st : FStep s s') : KB s s' := by
  cases st with
  | e h => exact ⟨keep_estep h, h.inner_len⟩
  | regLabel l _ => exact ⟨keep_mapFrames _ s (fun _ => rfl) (fun _ => rfl), List.length_map _⟩
  | ctl i _ _ _ hr => exact kb_push i s hr
  | ctlVia k i _ _ _ hr => exact ⟨keep_pushVia k i s hr, (pushVia_fields k i s).2⟩

theorem kb_fsteps {s s' : St} (h : FSteps s s') : KB s s' := by
  induction h with
  | refl => exact KB.refl _
  | tail _ st ih => exact ih.trans (kb_fstep st)

/-- a child block keeps the invariant if what runs inside it, one level deeper, does -/
theorem Around.kb {s s1 s2 s3 : St} (h : Around s s1 s2 s3) (hb : 0 < s1.inner.length → KB s1 s2) : KB s s3 := by
  obtain ⟨s0, s2', h0, h1, h2, h3⟩ := h
  have k0 := kb_fsteps h0
  have k1 := kb_fsteps h1
  have k2 := kb_fsteps h2
  have k3 := kb_fsteps h3
  have l1 : s1.inner.length = s0.inner.length + 1 := k1.2
  have kb := hb (by omega)
  have l3 := inner_length_leave s2' (List.ne_nil_of_length_pos (by have := k2.2; have := kb.2; omega))
  refine ⟨?_, by have := k0.2; have := k2.2; have := k3.2; have := kb.2; omega⟩
  exact (((k0.1.trans (keep_enter s0)).trans k1.1).trans kb.1).trans ((k2.1.trans (keep_leave s2')).trans k3.1)

theorem kb_nestedReturn (g : Globals) (e : Expr) (s : St) (hin : 0 < s.inner.length) : KB s (nestedReturn g e s).1 := by
  refine ⟨?_, nestedReturn_len e s⟩
  obtain ⟨s1, h1, h | ⟨r, h⟩⟩ := esteps_nestedReturn_pre g e s
  · rw [h]; exact keep_esteps h1
  · rw [h]
    exact (keep_esteps h1).trans (keep_jumpRet r s1 (List.ne_nil_of_length_pos (by rw [h1.inner_len]; exact hin)))

theorem kb_loopWrap (k : Name → Name → Bool → Bool → Bool → St → St × Bool)
    (hk : ∀ lb le rc bc cc s, 0 < s.inner.length → KB s (k lb le rc bc cc s).1) (s : St) : KB s (loopWrap k s) := by
  obtain ⟨lb, le, s1, h⟩ := around_loopWrap k s
  exact h.kb (hk lb le false false false s1)

theorem kb_nStmt (g : Globals) (K : BodyK) (st : NStmt) (f : Flags) (s : St) (hin : ∀ e, st = .ret e → 0 < s.inner.length)
    (h : st.Sub (fun i => ∀ le ll s, KB s (ifCondition g i le ll s))
      (fun l => ∀ lb le rc bc cc s, 0 < s.inner.length → KB s (loopBody g l lb le rc bc cc s).1)) :
    KB s (nStmt g K st f s).1 := by
  unfold nStmt
  have h0 := kb_esteps (esteps_forbidden f.rc f.bc f.cc s)
  generalize forbidden f.rc f.bc f.cc s = s0 at h0
  refine h0.trans ?_
  cases st with
  | letB b => exact kb_esteps (esteps_letBinding g b s0)
  | bind b => exact kb_esteps (esteps_binding g b s0)
  | call c => exact kb_esteps (esteps_callStmt g c s0)
  | ifS i => exact h _ _ s0
  | loop l => exact kb_loopWrap _ h s0
  | ret e => exact kb_nestedReturn g e s0 (by rw [h0.2]; exact hin e rfl)
  | brk => exact kb_push _ s0 rfl
  | cont => exact kb_push _ s0 rfl

theorem kb_ind (g : Globals) : BodyInd
    (fun i => ∀ le ll s, KB s (ifCondition g i le ll s))
    (fun b => ∀ lEnd ll s, 0 < s.inner.length → KB s (ifBodies g b lEnd ll s).1)
    (fun l => ∀ lEnd ll rc s, 0 < s.inner.length → KB s (ifBody g l lEnd ll rc s).1)
    (fun l => ∀ lEnd lb le rc bc cc s, 0 < s.inner.length → KB s (ifLoopBody g l lEnd lb le rc bc cc s).1)
    (fun l => ∀ lb le rc bc cc s, 0 < s.inner.length → KB s (loopBody g l lb le rc bc cc s).1) where
  ifS cond body els elif hbody hels helif labelEnd labelLoop s := by
    obtain ⟨lEnd, s1, s3, h1, h2⟩ := ifCondition_split g cond body els elif labelEnd labelLoop s
    have h3 := h1.kb (hbody lEnd labelLoop s1)
    cases els with
    | some eb =>
      obtain ⟨s4, h2⟩ := h2
      exact h3.trans (h2.kb (hels eb rfl lEnd labelLoop s4))
    | none =>
      cases elif with
      | some ei => exact (h3.trans (helif ei rfl (some lEnd) labelLoop s3)).trans (kb_fsteps h2)
      | none => exact h3.trans (kb_fsteps h2)
  ifb l h lEnd ll s hin := h lEnd ll false s hin
  loopb l h lEnd ll s hin := by
    rcases ll with _ | ⟨lb, le⟩
    · show KB s (s.setPanic _)
      unfold St.setPanic
      cases s.panic
      · exact ⟨⟨rfl, inv11_of_view rfl⟩, rfl⟩
      · exact KB.refl _
    · exact h lEnd lb le false false false s hin
  ifNil _ _ _ s _ := KB.refl s
  ifCons st tl h ht lEnd ll rc s hin := by
    rw [ifBody_cons]
    have h1 := kb_nStmt g ⟨some lEnd, ll⟩ st.toN ⟨rc, false, false⟩ s (fun _ _ => hin) h
    exact h1.trans (ht lEnd ll _ _ (by rw [h1.2]; exact hin))
  ifLoopNil _ _ _ _ _ _ s _ := KB.refl s
  ifLoopCons st tl h ht lEnd lb le rc bc cc s hin := by
    rw [ifLoopBody_cons]
    have h1 := kb_nStmt g ⟨some lEnd, some (lb, le)⟩ st.toN ⟨rc, bc, cc⟩ s (fun _ _ => hin) h
    exact h1.trans (ht lEnd lb le _ _ _ _ (by rw [h1.2]; exact hin))
  loopNil _ _ _ _ _ s _ := KB.refl s
  loopCons st tl h ht lb le rc bc cc s hin := by
    rw [loopBody_cons]
    have h1 := kb_nStmt g ⟨none, some (lb, le)⟩ st.toN ⟨rc, bc, cc⟩ s (fun _ _ => hin) h
    exact h1.trans (ht lb le _ _ _ _ (by rw [h1.2]; exact hin))

theorem kb_ifCondition (g : Globals) : ∀ (i : IfStmt) (le : Option Name) (ll : Option (Name × Name)) (s : St),
    KB s (ifCondition g i le ll s) :=
  (kb_ind g).ifStmt
theorem kb_ifBodies (g : Globals) : ∀ (b : IfBodies) (lEnd : Name) (ll : Option (Name × Name)) (s : St),
    0 < s.inner.length → KB s (ifBodies g b lEnd ll s).1 :=
  (kb_ind g).bodies
theorem kb_ifBody (g : Globals) : ∀ (l : List IfBodyStmt) (lEnd : Name) (ll : Option (Name × Name)) (rc : Bool) (s : St),
    0 < s.inner.length → KB s (ifBody g l lEnd ll rc s).1 :=
  (kb_ind g).ifBody
theorem kb_ifLoopBody (g : Globals) : ∀ (l : List IfLoopStmt) (lEnd lb le : Name) (rc bc cc : Bool) (s : St),
    0 < s.inner.length → KB s (ifLoopBody g l lEnd lb le rc bc cc s).1 :=
  (kb_ind g).ifLoopBody
theorem kb_loopBody (g : Globals) : ∀ (l : List LoopStmt) (lb le : Name) (rc bc cc : Bool) (s : St),
    0 < s.inner.length → KB s (loopBody g l lb le rc bc cc s).1 :=
  (kb_ind g).loopBody

/-- the last instruction is a function return whose form agrees with the jump-to-returns before it -/
def formOK (ctx : List Instr) : Prop :=
  match ctx.getLast? with
  | some (.fnReturnWithLabel _) => 0 < cntJ ctx
  | some (.fnReturn _) => cntJ ctx = 0
  | _ => False

theorem nil_of_ext {α : Type} {a b : List α} (h : ∃ Δ, b = a ++ Δ) (hb : b = []) : a = [] := by
  obtain ⟨Δ, h⟩ := h; rw [hb] at h; exact (List.append_eq_nil_iff.mp h.symm).1

theorem body_cons_ext (g : Globals) (resTy : Ty) (st : BodyStmt) (tl : List BodyStmt) (rc : Bool) (s : St) :
    ∃ Δ, (bodyStmts g resTy (st :: tl) rc s).1.errors = (forbidden rc false false s).errors ++ Δ := by
  rw [bodyStmts_cons]
  cases st.split with
  | inl n =>
    dsimp only
    rw [nStmt_forbidden]
    exact ((steps_nStmt' g _ n _ _).trans (steps_bodyStmts g resTy tl _ _)).errors_ext
  | inr e => exact ((steps_fnReturn g resTy e rc _).trans (steps_bodyStmts g resTy tl _ _)).errors_ext

/-- an error-free remainder after a return is empty -/
theorem body_after_ret (g : Globals) (resTy : Ty) (l : List BodyStmt) (s : St)
    (h : (bodyStmts g resTy l true s).1.errors = []) : l = [] := by
  cases l with
  | nil => rfl
  | cons st tl =>
    have := nil_of_ext (body_cons_ext g resTy st tl true s) h
    rw [forbidden_fn] at this
    simp [St.addErr] at this

theorem cur_of_nil {s : St} (h : s.inner.length = 0) : s.cur = s.root := by
  unfold St.cur; cases hi : s.inner with
  | nil => rfl
  | cons b r => rw [hi] at h; simp at h

structure Fin11 (s : St) : Prop where
  inv : Inv11 s
  len : s.inner.length = 0
  one : cntF s.root.context = 1
  form : formOK s.root.context

theorem fin11_return (r : ExprResult) (s : St) (hlen : s.inner.length = 0) (hinv : Inv11 s)
    (hf : cntF s.root.context = 0) :
    Fin11 (if s.cur.manualReturn then s.push (.fnReturnWithLabel r) else s.push (.fnReturn r)) := by
  have fin : ∀ i : Instr, i.isJumpReturn = false → i.isFnReturn = true → formOK (s.root.context ++ [i]) →
      Fin11 (s.push i) := fun i hj hfn hform =>
    ⟨inv11_push i s hj hinv, by rw [(push_fields i s).2, hlen],
      by show cntF (s.root.context ++ [i]) = 1; rw [cntF_snoc, hf, hfn]; rfl, hform⟩
  have hflag := hinv.flag s.root (by simp [St.frames])
  rw [cur_of_nil hlen]
  cases hm : s.root.manualReturn with
  | true =>
    rw [hm] at hflag
    refine fin _ rfl rfl ?_
    simp only [formOK, List.getLast?_append, List.getLast?_singleton, Option.some_or, cntJ_snoc, Instr.isJumpReturn]
    simpa using hflag.symm
  | false =>
    rw [hm] at hflag
    refine fin _ rfl rfl ?_
    simp only [formOK, List.getLast?_append, List.getLast?_singleton, Option.some_or, cntJ_snoc, Instr.isJumpReturn]
    simpa using hflag.symm

theorem body11 (g : Globals) (resTy : Ty) : ∀ (l : List BodyStmt) (rc : Bool) (s : St),
    s.inner.length = 0 → Inv11 s → cntF s.root.context = (if rc then 1 else 0) → (rc = true → formOK s.root.context) →
    (bodyStmts g resTy l rc s).1.errors = [] → (bodyStmts g resTy l rc s).2 = true →
    Fin11 (bodyStmts g resTy l rc s).1
  | [], rc, s, hlen, hinv, hone, hform, _, hrc => by
    have hrc : rc = true := hrc
    subst hrc
    show Fin11 s
    exact ⟨hinv, hlen, hone, hform rfl⟩
  | st :: tl, rc, s, hlen, hinv, hone, hform, herr, hrc => by
    have hs0 := nil_of_ext (body_cons_ext g resTy st tl rc s) herr
    rw [forbidden_fn] at hs0
    have hrcf : rc = false := by
      cases rc with
      | false => rfl
      | true => simp [St.addErr] at hs0
    subst hrcf
    simp only [Bool.false_eq_true, if_false] at hone
    rw [bodyStmts_cons] at herr hrc ⊢
    have e0 : forbidden false false false s = s := rfl
    rw [e0] at herr hrc ⊢
    have next : ∀ (s1 : St), KB s s1 → (bodyStmts g resTy tl false s1).1.errors = [] →
        (bodyStmts g resTy tl false s1).2 = true → Fin11 (bodyStmts g resTy tl false s1).1 := fun s1 h1 he hr =>
      body11 g resTy tl false s1 (by rw [h1.2, hlen]) (h1.1.inv hinv) (by rw [h1.1.f, hone]; rfl) (by intro h; cases h) he hr
    -- a return that analyses is the last statement of an error-free body
    have ret : ∀ e, (bodyStmts g resTy tl (fnReturn g resTy e false s).2 (fnReturn g resTy e false s).1).1.errors = [] →
        (bodyStmts g resTy tl (fnReturn g resTy e false s).2 (fnReturn g resTy e false s).1).2 = true →
        Fin11 (bodyStmts g resTy tl (fnReturn g resTy e false s).2 (fnReturn g resTy e false s).1).1 := by
      intro e herr hrc
      obtain ⟨s2, h2, hq | ⟨r, hq⟩⟩ := fnReturn_split g resTy e false s
      · rw [hq] at herr hrc ⊢
        exact next s2 (kb_esteps h2) herr hrc
      · rw [hq] at herr ⊢
        have htl := body_after_ret g resTy tl _ herr
        subst htl
        have k2 := kb_esteps h2
        exact fin11_return r s2 (by rw [k2.2, hlen]) (k2.1.inv hinv) (by rw [k2.1.f, hone])
    cases hq : st.split with
    | inl n =>
      rw [hq] at herr hrc
      exact next _ (kb_nStmt g ⟨none, none⟩ n _ s (fun e he => absurd he ((BodyStmt.split_inl hq).1 e)) ((kb_ind g).sub n))
        herr hrc
    | inr e =>
      rw [hq] at herr hrc
      exact ret e herr hrc

theorem any_eq_countP (p : Instr → Bool) (l : List Instr) : l.any p = decide (0 < countP p l) := by
  unfold countP
  induction l with
  | nil => rfl
  | cons x xs ih =>
    simp only [List.any_cons, List.filter_cons]
    cases hx : p x
    · simpa using ih
    · simp

theorem fin11_functionBody (g : Globals) (f : FnDecl) (h : (functionBody g f).errors = []) :
    Fin11 (functionBody g f) := by
  unfold functionBody at h ⊢
  dsimp only at h ⊢
  have k0 := kb_esteps (esteps_initParams f.params St.init paramInv_init)
  generalize initParams f.params St.init = s0 at k0 h ⊢
  have hb := body11 g f.result.toTy f.body false s0 (by rw [k0.2]; rfl) (k0.1.inv inv11_init)
    (by rw [k0.1.f]; rfl) (by intro h; cases h)
  generalize bodyStmts g f.result.toTy f.body false s0 = q at hb h ⊢
  obtain ⟨s1, rc⟩ := q
  cases rc with
  | true => exact hb h rfl
  | false => simp [St.addErr] at h

/-- **C11 for one function**: an analysis of a function body that reports no error leaves a root stack that ends with
exactly one function return, of the form selected by the jump-to-returns before it, and every jump-to-return of the
root stack belongs to a nested block -/
theorem C11_function (g : Globals) (f : FnDecl) (i : Nat) (h : (functionBody g f).errors = []) :
    P_C11_block (functionBody g f).root i = [] := by
  obtain ⟨inv, len, one, form⟩ := fin11_functionBody g f h
  generalize functionBody g f = s at inv len one form
  have hj := inv.eq
  have hl : liveJ s = 0 := by
    unfold liveJ
    cases hi : s.inner with
    | nil => rfl
    | cons b r => rw [hi] at len; simp at len
  rw [hl, Nat.add_zero] at hj
  unfold P_C11_block
  dsimp only
  unfold formOK at form
  unfold cntF at one
  unfold cntJ kidsJ at hj
  unfold cntJ at form
  rw [any_eq_countP]
  cases hg : s.root.context.getLast? with
  | none => rw [hg] at form; exact absurd form id
  | some x =>
    rw [hg] at form
    cases x <;> first
      | exact absurd form id
      | (simp only at form
         rw [hj] at form
         simp only [Instr.isFnReturn, if_true, List.nil_append, one, hj, beq_self_eq_true]
         simp
         omega)

/-- **C11** — in every accepted program every function's stack ends in exactly one function return of the right form -/
theorem C11 (p : Program) : P_C11g p (run p) = [] := by
  unfold P_C11g acceptedWF Result.accepted
  cases hp : (run p).panic.isNone && (run p).errors.isEmpty && WellFormedB p with
  | false => rfl
  | true =>
    simp only [Bool.and_eq_true, List.isEmpty_iff] at hp
    simp only [if_true]
    have he := hp.1.2
    unfold run at he ⊢
    dsimp only at he ⊢
    unfold P_C11
    dsimp only
    rw [List.flatMap_eq_nil_iff]
    intro x hx
    obtain ⟨b, i⟩ := x
    have hm := List.fst_mem_of_mem_zipIdx hx
    simp only [List.mem_map] at hm
    obtain ⟨s, hs, rfl⟩ := hm
    obtain ⟨f, hf, rfl⟩ := hs
    have hall := (List.append_eq_nil_iff.mp he).2
    rw [List.flatten_eq_nil_iff] at hall
    exact C11_function _ f i (hall _ (by simp only [List.mem_map]; exact ⟨_, ⟨f, hf, rfl⟩, rfl⟩))

theorem driver_C11 (p : Program) : failingOf .C11 p (run p) true = [] := C11 p

end SemVerif
