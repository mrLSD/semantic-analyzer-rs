import SemVerif.Spec.Preds
import SemVerif.Inventory
import SemVerif.Lemmas.StmtSteps
import SemVerif.Lemmas.Misc
import SemVerif.Lemmas.BodySpec
import SemVerif.Driver
/-!
# Property C13 — analysis is total

* Termination: every function of the model (`SemVerif/Analyzer.lean`) is accepted by Lean as a
  total function by *structural* recursion over the AST (no `partial`, no well-founded recursion;
  the two probe loops take fuel `|registry|+1`, shown sufficient in `Lemmas/Names.lean`).
* `C13`: for every program whose loop-flavoured if-bodies occur only inside loops, the run does not
  panic.  Nothing below statement level can panic (`ESteps.panic_eq`: the argument-index site is
  unreachable because the argument count is checked first); the only panic site of the domain is the
  documented `expect` on the loop labels.
* The translator's panic-site inventory (`inv_panicSites`) pins the `unwrap` / `expect` / index /
  counter `+1` sites of the Rust source to the ones the model accounts for.
What the model cannot exhibit: `RefCell` double borrows, integer overflow, native stack exhaustion —
covered only by running the real code under `catch_unwind` in the correspondence run.
-/
namespace SemVerif

theorem panic_probeLabel (stem : Name) (s : St) : (s.probeLabel stem).2.panic = s.panic := rfl

theorem panic_leave (s : St) : s.leave.2.panic = s.panic := by
  unfold St.leave
  cases s.inner with
  | nil => rfl
  | cons b rest => cases rest <;> rfl

/-- the helpers of a control construct leave the panic field alone: whether an `if` or a loop panics is
decided in its bodies -/
theorem Around.panic_eq {s s1 s2 s3 : St} (h : Around s s1 s2 s3) : s1.panic = s.panic ∧ s3.panic = s2.panic := by
  obtain ⟨s0, s2', h0, h1, h2, h3⟩ := h
  exact ⟨h1.panic_eq.trans h0.panic_eq, (h3.panic_eq.trans (panic_leave s2')).trans h2.panic_eq⟩

theorem panic_nestedReturn (g : Globals) (e : Expr) (s : St) : (nestedReturn g e s).1.panic = s.panic := by
  obtain ⟨s1, h1, h | ⟨r, h⟩⟩ := esteps_nestedReturn_pre g e s <;> rw [h] <;> exact h1.panic_eq

theorem panic_loopWrap (k : Name → Name → Bool → Bool → Bool → St → St × Bool) (s : St) :
    ∃ lb le s1, s1.panic = s.panic ∧ (loopWrap k s).panic = (k lb le false false false s1).1.panic := by
  obtain ⟨lb, le, s1, h⟩ := around_loopWrap k s
  exact ⟨lb, le, s1, h.panic_eq⟩

theorem np_nStmt (g : Globals) (K : BodyK) (st : NStmt) (f : Flags) (s : St)
    (h : st.Sub
      (fun i => ∀ le ll s, IfStmt.loopOK ll.isSome i = true → s.panic = none → (ifCondition g i le ll s).panic = none)
      (fun l => ∀ lb le rc bc cc s, LoopStmt.loopOKL l = true → s.panic = none →
        (loopBody g l lb le rc bc cc s).1.panic = none))
    (hok : loopOKN K.ll.isSome st = true) (hs : s.panic = none) : (nStmt g K st f s).1.panic = none := by
  unfold nStmt
  have h0 := (esteps_forbidden f.rc f.bc f.cc s).panic_eq.trans hs
  generalize forbidden f.rc f.bc f.cc s = s0 at h0
  cases st with
  | letB b => exact (esteps_letBinding g b s0).panic_eq.trans h0
  | bind b => exact (esteps_binding g b s0).panic_eq.trans h0
  | call c => exact (esteps_callStmt g c s0).panic_eq.trans h0
  | ifS i => exact h _ _ s0 hok h0
  | loop l =>
    obtain ⟨lb, le, s1, h1, h2⟩ := panic_loopWrap (loopBody g l) s0
    exact h2.trans (h _ _ _ _ _ s1 hok (h1.trans h0))
  | ret e => exact (panic_nestedReturn g e s0).trans h0
  | brk => exact h0
  | cont => exact h0

theorem np_ind (g : Globals) :
    BodyInd
      (fun i => ∀ le ll s, IfStmt.loopOK ll.isSome i = true → s.panic = none → (ifCondition g i le ll s).panic = none)
      (fun b => ∀ lEnd ll s, IfBodies.loopOK ll.isSome b = true → s.panic = none →
        (ifBodies g b lEnd ll s).1.panic = none)
      (fun l => ∀ lEnd ll rc s, IfBodyStmt.loopOKL ll.isSome l = true → s.panic = none →
        (ifBody g l lEnd ll rc s).1.panic = none)
      (fun l => ∀ lEnd lb le rc bc cc s, IfLoopStmt.loopOKL l = true → s.panic = none →
        (ifLoopBody g l lEnd lb le rc bc cc s).1.panic = none)
      (fun l => ∀ lb le rc bc cc s, LoopStmt.loopOKL l = true → s.panic = none →
        (loopBody g l lb le rc bc cc s).1.panic = none) where
  ifS cond body els elif hbody hels helif le ll s := by
    intro hok hs
    rw [IfStmt.loopOK_mk, Bool.and_eq_true, Bool.and_eq_true] at hok
    obtain ⟨lEnd, s1, s3, h1, h2⟩ := ifCondition_split g cond body els elif le ll s
    have h3 := h1.panic_eq.2.trans (hbody lEnd ll s1 hok.1.1 (h1.panic_eq.1.trans hs))
    cases els with
    | some eb =>
      obtain ⟨s4, h2⟩ := h2
      exact h2.panic_eq.2.trans (hels eb rfl lEnd ll s4 hok.1.2 (h2.panic_eq.1.trans h3))
    | none =>
      cases elif with
      | some ei => exact h2.panic_eq.trans (helif ei rfl (some lEnd) ll s3 hok.2 h3)
      | none => exact h2.panic_eq.trans h3
  ifb l h lEnd ll s := h lEnd ll false s
  loopb l h lEnd
    | some (lb, le), s => h lEnd lb le false false false s
    | none, _ => fun hok _ => absurd hok Bool.false_ne_true
  ifNil _ _ _ _ _ hs := hs
  ifCons st tl h ht lEnd ll rc s := by
    intro hok hs
    rw [IfBodyStmt.loopOKL_cons, Bool.and_eq_true] at hok
    rw [ifBody_cons]
    exact ht lEnd ll _ _ hok.2 (np_nStmt g _ st.toN _ s h hok.1 hs)
  ifLoopNil _ _ _ _ _ _ _ _ hs := hs
  ifLoopCons st tl h ht lEnd lb le rc bc cc s := by
    intro hok hs
    rw [IfLoopStmt.loopOKL_cons, Bool.and_eq_true] at hok
    rw [ifLoopBody_cons]
    exact ht lEnd lb le _ _ _ _ hok.2 (np_nStmt g ⟨some lEnd, some (lb, le)⟩ st.toN _ s h hok.1 hs)
  loopNil _ _ _ _ _ _ _ hs := hs
  loopCons st tl h ht lb le rc bc cc s := by
    intro hok hs
    rw [LoopStmt.loopOKL_cons, Bool.and_eq_true] at hok
    rw [loopBody_cons]
    exact ht lb le _ _ _ _ hok.2 (np_nStmt g ⟨none, some (lb, le)⟩ st.toN _ s h hok.1 hs)

theorem np_ifCondition (g : Globals) : ∀ (i : IfStmt) (le : Option Name) (ll : Option (Name × Name)) (s : St),
    IfStmt.loopOK ll.isSome i = true → s.panic = none → (ifCondition g i le ll s).panic = none := (np_ind g).ifStmt

theorem np_ifBodies (g : Globals) : ∀ (b : IfBodies) (lEnd : Name) (ll : Option (Name × Name)) (s : St),
    IfBodies.loopOK ll.isSome b = true → s.panic = none → (ifBodies g b lEnd ll s).1.panic = none :=
  (np_ind g).bodies

theorem np_ifBody (g : Globals) : ∀ (l : List IfBodyStmt) (lEnd : Name) (ll : Option (Name × Name)) (rc : Bool) (s : St),
    IfBodyStmt.loopOKL ll.isSome l = true → s.panic = none → (ifBody g l lEnd ll rc s).1.panic = none :=
  (np_ind g).ifBody

theorem np_ifLoopBody (g : Globals) : ∀ (l : List IfLoopStmt) (lEnd lb le : Name) (rc bc cc : Bool) (s : St),
    IfLoopStmt.loopOKL l = true → s.panic = none → (ifLoopBody g l lEnd lb le rc bc cc s).1.panic = none :=
  (np_ind g).ifLoopBody

theorem np_loopBody (g : Globals) : ∀ (l : List LoopStmt) (lb le : Name) (rc bc cc : Bool) (s : St),
    LoopStmt.loopOKL l = true → s.panic = none → (loopBody g l lb le rc bc cc s).1.panic = none :=
  (np_ind g).loopBody

theorem fnReturn_panic (g : Globals) (resTy : Ty) (e : Expr) (rc : Bool) (s : St) :
    (fnReturn g resTy e rc s).1.panic = s.panic := by
  obtain ⟨s2, h, hq | ⟨r, hq⟩⟩ := fnReturn_split g resTy e rc s
  · rw [hq]; exact h.panic_eq
  · rw [hq]; dsimp only; split <;> exact h.panic_eq

theorem np_bodyStmts (g : Globals) (resTy : Ty) (l : List BodyStmt) (rc : Bool) (s : St)
    (hok : BodyStmt.loopOKL l = true) (hs : s.panic = none) : (bodyStmts g resTy l rc s).1.panic = none := by
  induction l generalizing rc s with
  | nil => exact hs
  | cons st tl ih =>
    rw [BodyStmt.loopOKL_cons, Bool.and_eq_true] at hok
    rw [bodyStmts_cons]
    generalize st.split = q at hok ⊢
    cases q with
    | inl n => exact ih rc _ hok.2 (np_nStmt g ⟨none, none⟩ n _ s ((np_ind g).sub n) hok.1 hs)
    | inr e =>
      exact ih _ _ hok.2 ((fnReturn_panic g resTy e rc _).trans ((esteps_forbidden rc false false s).panic_eq.trans hs))

/-- one function: no panic when its loop-flavoured if-bodies are inside loops -/
theorem C13_function (g : Globals) (f : FnDecl) (hok : BodyStmt.loopOKL f.body = true) :
    (functionBody g f).panic = none := by
  unfold functionBody
  dsimp only
  have h2 := np_bodyStmts g f.result.toTy f.body false _ hok
    (esteps_initParams f.params St.init paramInv_init).panic_eq
  generalize bodyStmts g f.result.toTy f.body false (initParams f.params St.init) = q at h2
  obtain ⟨s2, rc⟩ := q
  cases rc <;> exact h2

theorem firstPanic_eq_none (l : List St) : firstPanic l = none ↔ ∀ s ∈ l, s.panic = none := by
  induction l with
  | nil => exact ⟨fun _ _ h => (nomatch h), fun _ => rfl⟩
  | cons x rest ih =>
    rw [List.forall_mem_cons, ← ih]
    show (match x.panic with | some p => some p | none => firstPanic rest) = none ↔ _
    cases x.panic with
    | some v => exact ⟨nofun, fun h => nomatch h.1⟩
    | none => exact ⟨fun h => ⟨rfl, h⟩, fun h => h.2⟩

/-- **C13** — inside the documented domain the analysis returns normally -/
theorem C13 (p : Program) : P_C13 p (run p) = [] := by
  unfold P_C13
  cases hok : LoopOKB p with
  | false => simp
  | true =>
    have : (run p).panic = none := by
      unfold run
      dsimp only
      apply (firstPanic_eq_none _).mpr
      intro s hs
      simp only [List.mem_map] at hs
      obtain ⟨f, hf, rfl⟩ := hs
      apply C13_function
      unfold LoopOKB at hok
      rw [List.all_eq_true] at hok
      exact hok f (by rw [← fns_eq_fnDecls]; exact hf)
    simp [this]

theorem driver_C13 (p : Program) : failingOf .C13 p (run p) true = [] := C13 p

end SemVerif
