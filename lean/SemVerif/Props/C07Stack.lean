import SemVerif.Props.C06
import SemVerif.Props.C07
import SemVerif.Driver
/-!
# Property C07, second half — the emitted operations are the precedence tree

`Props/C07.lean` shows that the fold builds the unique priority-correct tree of a chain.
`C07`: on the model's result the output predicate of the property reports nothing, for every
program: in an accepted program the `ExpressionOperation` instructions, read as a tree through
their register operands, have exactly the bracketing of the reference precedence tree `specTree`
(rightmost operator of minimal priority, recursively) of the source chain — in every statement
position (let, assignment, argument, return, condition side), with bracketed sub-expressions as
units, for every chain length.  Projection (`DTree.shape`) of `C06_exact`; the second clause of the
predicate (fold tree = reference tree) is `specStmts_ref`.
-/
namespace SemVerif

/-- the reference tree is the unique priority-correct tree of the chain (any table) -/
theorem C07_reference_tree {α : Type} (prio : Op → Nat) (v : α) (rest : List (Op × α)) :
    (specTree prio v rest).flat = chainFlat v rest ∧ Correct prio (specTree prio v rest) ∧
    specTree prio v rest = foldChain prio v rest :=
  ⟨(specTree_correct prio v rest).1, (specTree_correct prio v rest).2, specTree_eq_fold prio v rest⟩

/-- **C07** — the output predicate of the property holds on the model's result for every program -/
theorem C07 (p : Program) : P_C07 p (run p) = [] := by
  unfold P_C07
  cases h : acceptedWF p (run p) with
  | false => rfl
  | true =>
    obtain ⟨hnp, he⟩ := accepted_of_wf h
    rw [if_neg (by simp), cmpRendered_nil _ _ _ (denotePairs_eq p hnp he), List.nil_append, List.flatMap_eq_nil_iff]
    rintro ⟨f, i⟩ _
    simp [specStmts_ref]

/-- non-vacuity: the chain `x + K * 2` of `exampleT2` is bracketed as `x + (K * 2)` -/
example : ((specStmts true exampleT2.rglobals) <$> exampleT2.fnDecls).head?.map (fun l => l.map (DStmt.render DTree.shape)) =
    some ["param v0", "let v1 = (_ plus (_ multiply _))", "branch _", "do call(_)", "let v2 = call(_)", "return _"] := by
  decide +kernel

theorem driver_C07 (p : Program) : failingOf .C07 p (run p) true = [] := C07 p

end SemVerif
