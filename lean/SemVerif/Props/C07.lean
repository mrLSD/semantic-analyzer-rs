import SemVerif.Spec.Preds
import SemVerif.Spec.PrecTree
import SemVerif.Inventory
import SemVerif.Lemmas.FoldAtoms
/-!
# Property C07 — operator chains are bracketed by the documented priority table

`C07_fold_correct`: the operator-stack fold of the analyzer (`foldChain`, mirror of
`expression_operations_priority`) yields, for **every** priority table, operand type and chain
length, a tree with the chain's in-order tokens that satisfies `Correct`.
`C07_fold_unique`: any tree with these two properties is that tree — so it is *the* precedence
tree.  The model runs the fold with `Generated.prio`, regenerated from `ast.rs` on every run.
That the emitted `ExpressionOperation`s, read through their register operands, are this tree is
`C07` (Props/C07Stack.lean) on the model, and is checked on the implementation by the correspondence
run (predicate `P_C07`: the bracketing read off the stack equals the reference tree `specTree`),
exhaustively over the six priority classes.
-/
namespace SemVerif

variable {α : Type} (prio : Op → Nat)

theorem mem_flat_op (t : W α) (o : Op) : Tok.op o ∈ t.flat ↔ o ∈ t.ops := by
  induction t with
  | atom a =>
    show Tok.op o ∈ [Tok.val a] ↔ o ∈ []
    simp only [List.mem_singleton, reduceCtorEq, List.not_mem_nil]
  | pair l o' r ihl ihr =>
    show Tok.op o ∈ l.flat ++ Tok.op o' :: r.flat ↔ o ∈ l.ops ++ o' :: r.ops
    simp only [List.mem_append, List.mem_cons, ihl, ihr, Tok.op.injEq]

/-- two correct trees with the same tokens: the left subtree of one cannot reach beyond the root of the other,
since that root would lie left of, and bind no tighter than, an operator of its own right subtree -/
theorem overlap_nil {l1 r1 l2 r2 : W α} {o1 o2 : Op} {a : List (Tok α)}
    (h1 : Correct prio (.pair l1 o1 r1)) (h2 : Correct prio (.pair l2 o2 r2))
    (hl : l2.flat = l1.flat ++ a) (hr : Tok.op o1 :: r1.flat = a ++ Tok.op o2 :: r2.flat) : a = [] := by
  cases a with
  | nil => rfl
  | cons x a =>
    obtain ⟨rfl, hr'⟩ := List.cons.inj hr
    have m1 : o1 ∈ l2.ops := (mem_flat_op l2 o1).mp (hl ▸ List.mem_append_right _ List.mem_cons_self)
    have m2 : o2 ∈ r1.ops := (mem_flat_op r1 o2).mp (hr' ▸ List.mem_append_right _ List.mem_cons_self)
    exact (Nat.lt_irrefl _ (Nat.lt_of_lt_of_le (h1.2.2.2 o2 m2) (h2.2.2.1 o1 m1))).elim

theorem correct_unique (t1 t2 : W α) (h1 : Correct prio t1) (h2 : Correct prio t2)
    (hf : t1.flat = t2.flat) : t1 = t2 := by
  induction t1 generalizing t2 with
  | atom a =>
    cases t2 with
    | atom b => injection hf with hf; injection hf with hf; rw [hf]
    | pair l o r =>
      have : Tok.op o ∈ (W.atom a).flat := hf ▸ List.mem_append_right _ List.mem_cons_self
      cases List.mem_singleton.mp this
  | pair l1 o1 r1 ihl ihr =>
    cases t2 with
    | atom b =>
      have : Tok.op o1 ∈ (W.atom b).flat := hf ▸ List.mem_append_right _ List.mem_cons_self
      cases List.mem_singleton.mp this
    | pair l2 o2 r2 =>
      have key : l1.flat = l2.flat ∧ Tok.op o1 :: r1.flat = Tok.op o2 :: r2.flat := by
        rcases List.append_eq_append_iff.mp hf with ⟨a, hl, hr⟩ | ⟨a, hl, hr⟩
        · cases overlap_nil prio h1 h2 hl hr
          exact ⟨((List.append_nil _).symm.trans hl.symm), hr⟩
        · cases overlap_nil prio h2 h1 hl hr
          exact ⟨hl.trans (List.append_nil _), hr.symm⟩
      obtain ⟨hl, hr⟩ := key
      injection hr with ho hr
      injection ho with ho
      rw [ihl l2 h1.1 h2.1 hl, ihr r2 h1.2.1 h2.2.1 hr, ho]

/-- stack invariant; value stack and operator stack are top-first -/
inductive StackInv : List (W α) → List Op → Prop
  | base (v : W α) : Correct prio v → StackInv [v] []
  | push (v vp : W α) (vs : List (W α)) (o : Op) (os : List Op) :
      StackInv (vp :: vs) os → Correct prio v →
      (∀ o' ∈ v.ops, prio o < prio o') →        -- everything above `o` binds tighter
      (∀ o' ∈ vp.ops, prio o ≤ prio o') →       -- everything merged below is ≥ `o`
      (∀ o' ∈ os.head?, prio o' < prio o) →      -- operator stack strictly increasing
      StackInv (v :: vp :: vs) (o :: os)

/-- tokens of the whole stack, bottom to top -/
def stackFlat : List (W α) → List Op → List (Tok α)
  | [v], _ => v.flat
  | v :: vs, o :: os => stackFlat vs os ++ Tok.op o :: v.flat
  | _, _ => []

/-- folding the top operator (`fold_to_leaf`) keeps the invariant and the tokens; the operators of the new top value
all bind at least as tightly as the folded one -/
theorem StackInv.merge {v vp : W α} {vs : List (W α)} {o : Op} {os : List Op}
    (h : StackInv prio (v :: vp :: vs) (o :: os)) :
    StackInv prio (W.pair vp o v :: vs) os ∧ stackFlat (W.pair vp o v :: vs) os = stackFlat (v :: vp :: vs) (o :: os) ∧
    ∀ o' ∈ (W.pair vp o v).ops, prio o ≤ prio o' := by
  cases h with
  | push _ _ _ _ _ hrest hv habove hbelow hinc =>
    have hc : Correct prio (W.pair vp o v) := ⟨by cases hrest <;> assumption, hv, hbelow, habove⟩
    have hops : ∀ o' ∈ (W.pair vp o v).ops, prio o ≤ prio o' := by
      intro o' ho'
      rcases List.mem_append.mp ho' with h | h
      · exact hbelow o' h
      · rcases List.mem_cons.mp h with h | h
        · rw [h]; exact Nat.le_refl _
        · exact Nat.le_of_lt (habove o' h)
    cases hrest with
    | base _ _ => exact ⟨.base _ hc, rfl, hops⟩
    | push _ vpp vs' o2 os2 hrest2 _ _ hbelow2 hinc2 =>
      refine ⟨.push _ vpp vs' o2 os2 hrest2 hc ?_ hbelow2 hinc2, ?_, hops⟩
      · intro o' ho'
        exact Nat.lt_of_lt_of_le (hinc o2 rfl) (hops o' ho')
      · show _ ++ Tok.op o2 :: (vp.flat ++ Tok.op o :: v.flat) = (_ ++ Tok.op o2 :: vp.flat) ++ Tok.op o :: v.flat
        rw [List.append_assoc, List.cons_append]

theorem popWhile_inv (p : Nat) (vs : List (W α)) (os : List Op) :
    StackInv prio vs os → (∀ v ∈ vs.head?, ∀ o' ∈ v.ops, p ≤ prio o') →
    StackInv prio (popWhile prio p vs os).1 (popWhile prio p vs os).2 ∧
    stackFlat (popWhile prio p vs os).1 (popWhile prio p vs os).2 = stackFlat vs os ∧
    (∀ v ∈ (popWhile prio p vs os).1.head?, ∀ o' ∈ v.ops, p ≤ prio o') ∧
    (∀ o' ∈ (popWhile prio p vs os).2.head?, prio o' < p) := by
  induction vs, os using popWhile.induct prio p with
  | case1 v vp vs o os hp ih =>
    intro h _
    obtain ⟨hnew, hflat, hops⟩ := h.merge
    rw [popWhile_cons, if_pos hp]
    obtain ⟨a, b, c, d⟩ := ih hnew (fun w hw o' ho' => by cases hw; exact Nat.le_trans hp (hops o' ho'))
    exact ⟨a, b.trans hflat, c, d⟩
  | case2 v vp vs o os hp =>
    intro h htop
    rw [popWhile_cons, if_neg hp]
    exact ⟨h, rfl, htop, fun o' ho' => by cases ho'; exact Nat.lt_of_not_le hp⟩
  | case3 vs os hno =>
    intro h htop
    rw [popWhile_stop prio p hno]
    cases h with
    | base v hv => exact ⟨.base v hv, rfl, htop, fun _ ho' => by cases ho'⟩
    | push => exact (hno _ _ _ _ _ rfl rfl).elim

theorem step_inv (st : List (W α) × List Op) (x : Op × α) (h : StackInv prio st.1 st.2)
    (htop : ∀ v ∈ st.1.head?, v.ops = []) :
    let r := foldStep prio st x
    StackInv prio r.1 r.2 ∧ stackFlat r.1 r.2 = stackFlat st.1 st.2 ++ [Tok.op x.1, Tok.val x.2] ∧
    (∀ v ∈ r.1.head?, v.ops = []) := by
  obtain ⟨a, b, c, d⟩ := popWhile_inv prio (prio x.1) st.1 st.2 h
    (by intro v hv o' ho'; rw [htop v hv] at ho'; cases ho')
  simp only [foldStep]
  generalize popWhile prio (prio x.1) st.1 st.2 = r at a b c d
  obtain ⟨rv, ro⟩ := r
  cases rv with
  | nil => cases a
  | cons vp vs =>
    exact ⟨.push _ vp vs x.1 ro a trivial (fun _ ho' => by cases ho') (c vp rfl) d, by rw [← b]; rfl,
      fun _ hv => by cases hv; rfl⟩

theorem foldl_inv (rest : List (Op × α)) : ∀ (st : List (W α) × List Op),
    StackInv prio st.1 st.2 → (∀ v ∈ st.1.head?, v.ops = []) →
    let r := rest.foldl (foldStep prio) st
    StackInv prio r.1 r.2 ∧
      stackFlat r.1 r.2 = stackFlat st.1 st.2 ++ rest.flatMap (fun x => [Tok.op x.1, Tok.val x.2]) := by
  induction rest with
  | nil => intro st h _; exact ⟨h, (List.append_nil _).symm⟩
  | cons x tl ih =>
    intro st h htop
    obtain ⟨a, b, c⟩ := step_inv prio st x h htop
    obtain ⟨a', b'⟩ := ih (foldStep prio st x) a c
    refine ⟨a', b'.trans ?_⟩
    rw [b, List.append_assoc, List.flatMap_cons]

/-- C07 on the model: the fold yields a tree with the chain's in-order token sequence that
    satisfies the priority constraints — for every table, every operand type, every length. -/
theorem C07_fold_correct (v0 : α) (rest : List (Op × α)) :
    (foldChain prio v0 rest).flat = chainFlat v0 rest ∧ Correct prio (foldChain prio v0 rest) := by
  obtain ⟨a, b⟩ := foldl_inv prio rest ([W.atom v0], []) (.base _ trivial) (fun _ hv => by cases hv; rfl)
  simp only [foldChain]
  generalize List.foldl (foldStep prio) ([W.atom v0], []) rest = st at a b
  -- the final `popWhile` with priority 0 empties the operator stack
  obtain ⟨a2, b2, _, d2⟩ := popWhile_inv prio 0 st.1 st.2 a (fun _ _ _ _ => Nat.zero_le _)
  generalize popWhile prio 0 st.1 st.2 = r at a2 b2 d2
  obtain ⟨rv, ro⟩ := r
  cases a2 with
  | base v hv => exact ⟨b2.trans b, hv⟩
  | push v vp vs o os _ _ _ _ _ => exact absurd (d2 o rfl) (Nat.not_lt_zero _)

/-- …and therefore it is *the* precedence tree: any tree with these two properties is equal to it. -/
theorem C07_fold_unique (v0 : α) (rest : List (Op × α)) (t : W α)
    (hf : t.flat = chainFlat v0 rest) (hc : Correct prio t) : t = foldChain prio v0 rest := by
  obtain ⟨f, c⟩ := C07_fold_correct prio v0 rest
  exact correct_unique prio t _ hc c (by rw [hf, f])

/-- the table the analyzer publishes: priorities in source are those the model runs with (regenerated) -/
theorem C07_table : (Generated.prio .multiply, Generated.prio .divide, Generated.prio .plus, Generated.prio .minus) = (9, 8, 5, 4) := by decide

/-- example: with the published table `*` (9) binds tighter than `/` (8), so `a / b * c * d` folds to
`a / ((b * c) * d)`, not to `((a / b) * c) * d` -/
example : (foldChain Generated.prio 'a' [(.divide, 'b'), (.multiply, 'c'), (.multiply, 'd')]).flat =
    chainFlat 'a' [(.divide, 'b'), (.multiply, 'c'), (.multiply, 'd')] := (C07_fold_correct _ _ _).1

end SemVerif
