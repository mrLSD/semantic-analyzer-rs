import SemVerif.Spec.Preds
import SemVerif.Inventory
import SemVerif.Props.C17
import SemVerif.Props.C15
/-!
# Property C16 — results do not depend on the textual order of top-level declarations

`C16`: let `p'` be any permutation of the top-level statements of `p` that keeps the constant
declarations in the same relative order, and let the struct names and the function names of `p` be
pairwise distinct.  Then the two runs have
* the same constant table, and type and function tables that are permutations of each other with
  pairwise distinct keys (the same finite maps), hence the same lookups (`globals_eq`);
* error lists that are permutations of each other (the same multiset), hence the same verdict;
* for every function the identical root block — stack and block tree (the lists of (function, root block)
  pairs are permutations of each other);
* a panic in one exactly when there is one in the other.

Proof: the type pass registers every struct (distinct names: no duplicate is ever rejected), so
`typeExists` is the same predicate in both runs; constants only read the constant table and
`typeExists`, functions only read the function table (for the duplicate check, which never fires)
and `typeExists`; so the second pass splits into its constant part — identical in both runs — and
its function part — a `filterMap` over the functions.  Bodies see the tables only through the
lookups of `Globals`.
-/
namespace SemVerif

def TopStmt.ty? : TopStmt → Option StructDecl
  | .types d => some d
  | _ => none
def TopStmt.const? : TopStmt → Option ConstDecl
  | .const d => some d
  | _ => none
def TopStmt.fn? : TopStmt → Option FnDecl
  | .fn f => some f
  | _ => none

def Program.tds (p : Program) : List StructDecl := p.filterMap TopStmt.ty?
def Program.cds (p : Program) : List ConstDecl := p.filterMap TopStmt.const?

@[simp] theorem tds_types (d : StructDecl) (r : Program) : Program.tds (.types d :: r) = d :: Program.tds r := rfl
@[simp] theorem tds_fn (f : FnDecl) (r : Program) : Program.tds (.fn f :: r) = Program.tds r := rfl
@[simp] theorem tds_imp (x : List Name) (r : Program) : Program.tds (.imp x :: r) = Program.tds r := rfl
@[simp] theorem tds_const (d : ConstDecl) (r : Program) : Program.tds (.const d :: r) = Program.tds r := rfl
@[simp] theorem cds_types (d : StructDecl) (r : Program) : Program.cds (.types d :: r) = Program.cds r := rfl
@[simp] theorem cds_fn (f : FnDecl) (r : Program) : Program.cds (.fn f :: r) = Program.cds r := rfl
@[simp] theorem cds_imp (x : List Name) (r : Program) : Program.cds (.imp x :: r) = Program.cds r := rfl
@[simp] theorem cds_const (d : ConstDecl) (r : Program) : Program.cds (.const d :: r) = d :: Program.cds r := rfl
@[simp] theorem fns_types (d : StructDecl) (r : Program) : Program.fns (.types d :: r) = Program.fns r := rfl
@[simp] theorem fns_fn (f : FnDecl) (r : Program) : Program.fns (.fn f :: r) = f :: Program.fns r := rfl
@[simp] theorem fns_imp (x : List Name) (r : Program) : Program.fns (.imp x :: r) = Program.fns r := rfl
@[simp] theorem fns_const (d : ConstDecl) (r : Program) : Program.fns (.const d :: r) = Program.fns r := rfl

theorem fns_eq_filterMap (p : Program) : p.fns = p.filterMap TopStmt.fn? := by
  induction p with
  | nil => rfl
  | cons t rest ih =>
    cases t with
    | fn f => exact congrArg (f :: ·) ih
    | _ => exact ih

theorem fns_perm {p p' : Program} (h : p.Perm p') : p.fns.Perm p'.fns := by
  rw [fns_eq_filterMap, fns_eq_filterMap]; exact h.filterMap _

theorem declType_fresh (d : StructDecl) (gs : GState) (h : assocGet d.name gs.types = none) :
    declType d gs = { gs with types := gs.types ++ [tyEntry d], context := gs.context ++ [tyInstr d] } := by
  simp only [declType, h, Option.isSome_none, Bool.false_eq_true, if_false, assocInsert_absent _ _ _ h]
  rfl

theorem pass1_fresh (p : Program) : ∀ (gs : GState), (p.tds.map (·.name)).Nodup →
    (∀ d ∈ p.tds, assocGet d.name gs.types = none) →
    pass1 p gs = { gs with types := gs.types ++ p.tds.map tyEntry, context := gs.context ++ p.tds.map tyInstr } := by
  induction p with
  | nil =>
    intro gs _ _
    show gs = { gs with types := gs.types ++ [], context := gs.context ++ [] }
    rw [List.append_nil, List.append_nil]
  | cons t rest ih =>
    intro gs hn hfresh
    cases t with
    | types d =>
      rw [tds_types, List.map_cons, List.nodup_cons] at hn
      have hfresh' : ∀ d' ∈ Program.tds rest, assocGet d'.name (gs.types ++ [tyEntry d]) = none := by
        intro d' hd'
        have hne : d'.name ≠ d.name := fun e => hn.1 (List.mem_map.mpr ⟨d', hd', e⟩)
        rw [assocGet_append, hfresh d' (List.mem_cons_of_mem _ hd')]
        simp only [Option.none_or, tyEntry, assocGet, hne, if_false]
      show pass1 rest (declType d gs) = _
      rw [declType_fresh d gs (hfresh d List.mem_cons_self), ih _ hn.2 hfresh']
      simp only [tds_types, List.map_cons, List.append_assoc, List.singleton_append]
    | fn _ => exact ih gs hn hfresh
    | imp _ => exact ih gs hn hfresh
    | const _ => exact ih gs hn hfresh

theorem pass1_init (p : Program) (hn : (p.tds.map (·.name)).Nodup) :
    (pass1 p GState.init).types = p.tds.map tyEntry ∧ (pass1 p GState.init).consts = [] ∧
    (pass1 p GState.init).funcs = [] ∧ (pass1 p GState.init).errors = [] := by
  rw [pass1_fresh p GState.init hn (fun _ _ => rfl)]
  exact ⟨rfl, rfl, rfl, rfl⟩

def TEq (a b : GState) : Prop := ∀ t, a.typeExists t = b.typeExists t

theorem TEq.refl (a : GState) : TEq a a := fun _ => rfl

theorem TEq.symm {a b : GState} (h : TEq a b) : TEq b a := fun t => (h t).symm

/-- `typeExists` only reads the type table -/
theorem TEq.frame {a a' b b' : GState} (h : TEq a b) (ha : a'.types = a.types) (hb : b'.types = b.types) : TEq a' b' := by
  intro t
  unfold GState.typeExists
  rw [ha, hb]
  exact h t

theorem teq_of_perm {a b : GState} (h : a.types.Perm b.types) (hn : (a.types.map (·.1)).Nodup) : TEq a b := by
  intro t
  unfold GState.typeExists
  cases t with
  | prim _ => rfl
  | struct n at_ => simp only; rw [assocGet_perm _ h hn]
  | array t n => simp only; rw [assocGet_perm _ h hn]

theorem checkConstTail_go_congr {a b : GState} (h : a.consts = b.consts) (e : CExpr) :
    checkConstTail.go a e = checkConstTail.go b e := by
  induction e with
  | last v =>
    cases v with
    | val _ => rfl
    | const n =>
      show (if (assocGet n a.consts).isSome then none else some n) = if (assocGet n b.consts).isSome then none else some n
      rw [h]
  | cons v _ rest ih =>
    cases v with
    | val _ => exact ih
    | const n =>
      show (if (assocGet n a.consts).isSome then checkConstTail.go a rest else some n) =
        if (assocGet n b.consts).isSome then checkConstTail.go b rest else some n
      rw [h, ih]

theorem checkConstTail_congr {a b : GState} (h : a.consts = b.consts) (x : Option (Op × CExpr)) :
    checkConstTail a x = checkConstTail b x := by
  cases x with
  | none => rfl
  | some q => exact checkConstTail_go_congr h q.2

theorem checkParamTypes_congr {a b : GState} (h : TEq a b) (ps : List (Name × ATy)) :
    checkParamTypes a ps = checkParamTypes b ps := by
  induction ps with
  | nil => rfl
  | cons x rest ih =>
    show (if a.typeExists x.2.toTy then checkParamTypes a rest else some x.1) =
      if b.typeExists x.2.toTy then checkParamTypes b rest else some x.1
    rw [h x.2.toTy, ih]

theorem declConst_frame (d : ConstDecl) (gs : GState) :
    (declConst d gs).types = gs.types ∧ (declConst d gs).funcs = gs.funcs := by
  unfold declConst
  dsimp only
  cases (assocGet d.name gs.consts).isSome with
  | true => exact ⟨rfl, rfl⟩
  | false =>
    cases checkConstTail gs d.value.operation with
    | some n => exact ⟨rfl, rfl⟩
    | none => cases gs.typeExists d.ty.toTy <;> exact ⟨rfl, rfl⟩

theorem declConst_congr (d : ConstDecl) {a b : GState} (h1 : a.consts = b.consts) (h2 : TEq a b) :
    (declConst d a).consts = (declConst d b).consts ∧
    ∃ Δ, (declConst d a).errors = a.errors ++ Δ ∧ (declConst d b).errors = b.errors ++ Δ := by
  unfold declConst
  dsimp only
  rw [h1, checkConstTail_congr h1, h2 d.ty.toTy]
  cases (assocGet d.name b.consts).isSome with
  | true => exact ⟨h1, _, rfl, rfl⟩
  | false =>
    cases checkConstTail b d.value.operation with
    | some n => exact ⟨h1, _, rfl, rfl⟩
    | none =>
      cases b.typeExists d.ty.toTy with
      | false => exact ⟨h1, _, rfl, rfl⟩
      | true => exact ⟨rfl, [], (List.append_nil _).symm, (List.append_nil _).symm⟩

def fnEntry? (gs : GState) (f : FnDecl) : Option (Name × Func) :=
  if !gs.typeExists f.result.toTy then none
  else match checkParamTypes gs f.params with
    | some _ => none
    | none => some (f.name, ⟨f.name, f.result.toTy, f.params.map fun p => p.2.toTy⟩)

def fnErrs (gs : GState) (f : FnDecl) : List Err :=
  if !gs.typeExists f.result.toTy then [⟨.typeNotFound, f.name, 1, 0⟩]
  else match checkParamTypes gs f.params with
    | some n => [⟨.typeNotFound, n, 1, 0⟩]
    | none => []

theorem fnEntry?_congr {a b : GState} (h : TEq a b) (f : FnDecl) : fnEntry? a f = fnEntry? b f := by
  unfold fnEntry?; rw [h, checkParamTypes_congr h]

theorem fnErrs_congr {a b : GState} (h : TEq a b) (f : FnDecl) : fnErrs a f = fnErrs b f := by
  unfold fnErrs; rw [h, checkParamTypes_congr h]

theorem fnEntry?_key {gs : GState} {f : FnDecl} {e : Name × Func} (h : fnEntry? gs f = some e) : e.1 = f.name := by
  unfold fnEntry? at h
  split at h
  · cases h
  · split at h
    · cases h
    · cases h; rfl

theorem declFn_spec (f : FnDecl) (gs : GState) :
    (declFn f gs).types = gs.types ∧ (declFn f gs).consts = gs.consts ∧
    (declFn f gs).funcs = gs.funcs ++ (if (assocGet f.name gs.funcs).isSome then [] else (fnEntry? gs f).toList) ∧
    (declFn f gs).errors = gs.errors ++
      (if (assocGet f.name gs.funcs).isSome then [⟨.functionAlreadyExist, f.name, 1, 0⟩] else fnErrs gs f) := by
  unfold declFn fnEntry? fnErrs
  cases h0 : assocGet f.name gs.funcs with
  | some _ => exact ⟨rfl, rfl, (List.append_nil _).symm, rfl⟩
  | none =>
    cases gs.typeExists f.result.toTy with
    | false => exact ⟨rfl, rfl, (List.append_nil _).symm, rfl⟩
    | true =>
      cases checkParamTypes gs f.params with
      | some _ => exact ⟨rfl, rfl, (List.append_nil _).symm, rfl⟩
      | none => exact ⟨rfl, rfl, assocInsert_absent _ _ _ h0, (List.append_nil _).symm⟩

theorem declFn_congr (f : FnDecl) {a b : GState} (h1 : a.funcs = b.funcs) (h2 : TEq a b) :
    (declFn f a).funcs = (declFn f b).funcs ∧
    ∃ Δ, (declFn f a).errors = a.errors ++ Δ ∧ (declFn f b).errors = b.errors ++ Δ := by
  obtain ⟨_, _, fa, ea⟩ := declFn_spec f a
  obtain ⟨_, _, fb, eb⟩ := declFn_spec f b
  rw [h1, fnEntry?_congr h2] at fa
  rw [h1, fnErrs_congr h2] at ea
  exact ⟨fa.trans fb.symm, _, ea, eb⟩

def pc (cs : List ConstDecl) (gs : GState) : GState := cs.foldl (fun gs d => declConst d gs) gs
def pf (fs : List FnDecl) (gs : GState) : GState := fs.foldl (fun gs f => declFn f gs) gs

theorem foldl_frame {σ δ γ : Type} (step : σ → δ → σ) (π : σ → γ) (h : ∀ s d, π (step s d) = π s) (l : List δ) :
    ∀ s, π (l.foldl step s) = π s := by
  induction l with
  | nil => intro s; rfl
  | cons d l ih => intro s; exact (ih (step s d)).trans (h s d)

theorem pc_frame : ∀ (cs : List ConstDecl) (gs : GState), (pc cs gs).types = gs.types ∧ (pc cs gs).funcs = gs.funcs :=
  fun cs gs => ⟨foldl_frame _ (·.types) (fun s d => (declConst_frame d s).1) cs gs,
    foldl_frame _ (·.funcs) (fun s d => (declConst_frame d s).2) cs gs⟩

theorem pf_frame : ∀ (fs : List FnDecl) (gs : GState), (pf fs gs).types = gs.types ∧ (pf fs gs).consts = gs.consts :=
  fun fs gs => ⟨foldl_frame _ (·.types) (fun s f => (declFn_spec f s).1) fs gs,
    foldl_frame _ (·.consts) (fun s f => (declFn_spec f s).2.1) fs gs⟩

theorem append_append_of {α : Type} {x y a δ Δ : List α} (h1 : x = a ++ δ) (h2 : y = x ++ Δ) : y = a ++ (δ ++ Δ) := by
  rw [h2, h1, List.append_assoc]

theorem pc_congr (cs : List ConstDecl) : ∀ (a b : GState), a.consts = b.consts → TEq a b →
    (pc cs a).consts = (pc cs b).consts ∧ ∃ Δ, (pc cs a).errors = a.errors ++ Δ ∧ (pc cs b).errors = b.errors ++ Δ := by
  induction cs with
  | nil => intro a b h1 _; exact ⟨h1, [], (List.append_nil _).symm, (List.append_nil _).symm⟩
  | cons d cs ih =>
    intro a b h1 h2
    obtain ⟨c1, δ, e1, e2⟩ := declConst_congr d h1 h2
    obtain ⟨c2, Δ, f1, f2⟩ := ih _ _ c1 (h2.frame (declConst_frame d a).1 (declConst_frame d b).1)
    exact ⟨c2, δ ++ Δ, append_append_of e1 f1, append_append_of e2 f2⟩

theorem pass2_split : ∀ (p : Program) (gs gc gf : GState), gs.consts = gc.consts → gs.funcs = gf.funcs →
    TEq gs gc → TEq gs gf →
    (pass2 p gs).consts = (pc p.cds gc).consts ∧ (pass2 p gs).funcs = (pf p.fns gf).funcs ∧
    (pass2 p gs).types = gs.types ∧
    ∃ Δ ΔC ΔF, (pass2 p gs).errors = gs.errors ++ Δ ∧ (pc p.cds gc).errors = gc.errors ++ ΔC ∧
      (pf p.fns gf).errors = gf.errors ++ ΔF ∧ Δ.Perm (ΔC ++ ΔF) := by
  intro p
  induction p with
  | nil =>
    intro gs gc gf h1 h2 _ _
    exact ⟨h1, h2, rfl, [], [], [], (List.append_nil _).symm, (List.append_nil _).symm, (List.append_nil _).symm, .refl _⟩
  | cons t rest ih =>
    intro gs gc gf h1 h2 t1 t2
    cases t with
    | imp _ => exact ih gs gc gf h1 h2 t1 t2
    | types _ => exact ih gs gc gf h1 h2 t1 t2
    | const d =>
      obtain ⟨c1, δ, e1, e2⟩ := declConst_congr d h1 t1
      have fr := declConst_frame d gs
      obtain ⟨a1, a2, a3, Δ, ΔC, ΔF, b1, b2, b3, b4⟩ :=
        ih (declConst d gs) (declConst d gc) gf c1 (fr.2.trans h2)
          (t1.frame fr.1 (declConst_frame d gc).1) (t2.frame fr.1 rfl)
      refine ⟨a1, a2, a3.trans fr.1, δ ++ Δ, δ ++ ΔC, ΔF, append_append_of e1 b1, append_append_of e2 b2, b3, ?_⟩
      rw [List.append_assoc]
      exact b4.append_left δ
    | fn f =>
      obtain ⟨c1, δ, e1, e2⟩ := declFn_congr f h2 t2
      have fr := declFn_spec f gs
      obtain ⟨a1, a2, a3, Δ, ΔC, ΔF, b1, b2, b3, b4⟩ :=
        ih (declFn f gs) gc (declFn f gf) (fr.2.1.trans h1) c1
          (t1.frame fr.1 rfl) (t2.frame fr.1 (declFn_spec f gf).1)
      refine ⟨a1, a2, a3.trans fr.1, δ ++ Δ, ΔC, δ ++ ΔF, append_append_of e1 b1, b2, append_append_of e2 b3, ?_⟩
      -- `δ` moves in front of the constant errors
      refine (b4.append_left δ).trans ?_
      rw [← List.append_assoc, ← List.append_assoc]
      exact List.Perm.append_right ΔF List.perm_append_comm

theorem pf_char : ∀ (fs : List FnDecl) (gs : GState), (fs.map (·.name)).Nodup →
    (∀ f ∈ fs, assocGet f.name gs.funcs = none) →
    (pf fs gs).funcs = gs.funcs ++ fs.filterMap (fnEntry? gs) ∧ (pf fs gs).errors = gs.errors ++ fs.flatMap (fnErrs gs) := by
  intro fs
  induction fs with
  | nil => intro gs _ _; exact ⟨(List.append_nil _).symm, (List.append_nil _).symm⟩
  | cons f fs ih =>
    intro gs hn hfresh
    rw [List.map_cons, List.nodup_cons] at hn
    obtain ⟨ty, _, d1, d2⟩ := declFn_spec f gs
    simp only [hfresh f List.mem_cons_self, Option.isSome_none, Bool.false_eq_true, if_false] at d1 d2
    have hfresh' : ∀ f' ∈ fs, assocGet f'.name (declFn f gs).funcs = none := by
      intro f' hf'
      rw [d1, assocGet_append, hfresh f' (List.mem_cons_of_mem _ hf'), Option.none_or]
      apply assocGet_none_of_not_mem
      intro hk
      obtain ⟨e, he, hke⟩ := List.mem_map.mp hk
      rw [Option.mem_toList] at he
      exact hn.1 (List.mem_map.mpr ⟨f', hf', hke.symm.trans (fnEntry?_key he)⟩)
    obtain ⟨i1, i2⟩ := ih (declFn f gs) hn.2 hfresh'
    -- the later declarations see the same types
    have t : TEq (declFn f gs) gs := (TEq.refl gs).frame ty rfl
    rw [funext (fnEntry?_congr t)] at i1
    rw [funext (fnErrs_congr t)] at i2
    refine ⟨(append_append_of d1 i1).trans ?_, append_append_of d2 i2⟩
    rw [List.filterMap_cons]
    cases fnEntry? gs f <;> rfl

/-- the same tables (as finite maps), the same errors (as a multiset) -/
structure DeclEq (s s' : GState) : Prop where
  consts : s'.consts = s.consts
  funcs : s'.funcs.Perm s.funcs
  types : s'.types.Perm s.types
  errors : s'.errors.Perm s.errors
  tkeys : (s.types.map (·.1)).Nodup
  fkeys : (s.funcs.map (·.1)).Nodup

theorem declState_char (p : Program) (ht : (p.tds.map (·.name)).Nodup) (hf : (p.fns.map (·.name)).Nodup) :
    (declState p).types = p.tds.map tyEntry ∧
    (declState p).consts = (pc p.cds (pass1 p GState.init)).consts ∧
    (declState p).funcs = p.fns.filterMap (fnEntry? (pass1 p GState.init)) ∧
    (declState p).errors.Perm
      ((pc p.cds (pass1 p GState.init)).errors ++ p.fns.flatMap (fnErrs (pass1 p GState.init))) := by
  unfold declState
  obtain ⟨g1, g2, g3, g4⟩ := pass1_init p ht
  generalize pass1 p GState.init = g at g1 g2 g3 g4
  obtain ⟨a1, a2, a3, Δ, ΔC, ΔF, b1, b2, b3, b4⟩ := pass2_split p g g g rfl rfl (TEq.refl _) (TEq.refl _)
  obtain ⟨c1, c2⟩ := pf_char p.fns g hf (fun _ _ => by rw [g3]; rfl)
  rw [g4, List.nil_append] at b1 b2 b3 c2
  rw [g3, List.nil_append] at c1
  refine ⟨a3.trans g1, a1, a2.trans c1, ?_⟩
  rw [b1, b2, ← c2, b3]
  exact b4

theorem decl_perm (p p' : Program) (hperm : p.Perm p') (hc : p.cds = p'.cds)
    (ht : (p.tds.map (·.name)).Nodup) (hf : (p.fns.map (·.name)).Nodup) : DeclEq (declState p) (declState p') := by
  have pt : p.tds.Perm p'.tds := hperm.filterMap _
  have pfn := fns_perm hperm
  obtain ⟨t1, c1, f1, e1⟩ := declState_char p ht hf
  obtain ⟨t2, c2, f2, e2⟩ := declState_char p' ((pt.map _).nodup_iff.mp ht) ((pfn.map _).nodup_iff.mp hf)
  obtain ⟨ty1, cs1, _, er1⟩ := pass1_init p ht
  obtain ⟨ty2, cs2, _, er2⟩ := pass1_init p' ((pt.map _).nodup_iff.mp ht)
  -- no table has a key twice (C15)
  have kt := (rel_run p).ktypes
  have kf := (rel_run p).kfuncs
  -- both type passes register the same types, so the constant parts agree
  have teq : TEq (pass1 p GState.init) (pass1 p' GState.init) :=
    teq_of_perm (by rw [ty1, ty2]; exact pt.map _) (by rw [ty1, ← t1]; exact kt)
  obtain ⟨pc1, Δ0, pe1, pe2⟩ := pc_congr p.cds _ _ (cs1.trans cs2.symm) teq
  rw [er1, List.nil_append] at pe1
  rw [er2, List.nil_append] at pe2
  rw [← funext (fnEntry?_congr teq)] at f2
  rw [← hc, ← funext (fnErrs_congr teq), pe2, ← pe1] at e2
  refine ⟨?_, ?_, ?_, ?_, kt, kf⟩
  · rw [c1, c2, ← hc, pc1]
  · rw [f1, f2]; exact (pfn.filterMap _).symm
  · rw [t1, t2]; exact (pt.map _).symm
  · exact e2.trans ((List.Perm.append_left _ (pfn.flatMap_right _).symm).trans e1.symm)

theorem globals_eq {s s' : GState} (h : DeclEq s s') : s'.globals = s.globals := by
  unfold GState.globals
  congr 1
  · funext n; exact (assocGet_perm n h.types.symm h.tkeys).symm
  · rw [h.consts]
  · funext n; exact (assocGet_perm n h.funcs.symm h.fkeys).symm

theorem firstPanic_isSome (l : List St) : (firstPanic l).isSome = l.any (·.panic.isSome) := by
  induction l with
  | nil => rfl
  | cons s rest ih =>
    unfold firstPanic
    cases h : s.panic with
    | some x => simp only [List.any_cons, h, Option.isSome_some, Bool.true_or]
    | none => simp only [List.any_cons, h, Option.isSome_none, Bool.false_or, ih]

theorem zip_map_self {α β : Type} (F : α → β) (l : List α) : l.zip (l.map F) = l.map fun a => (a, F a) := by
  rw [← List.zip_map' (f := fun a => a), List.map_id']

/-- **C16** — the run of a program and of any permutation of its top-level statements that keeps the constants in the
same relative order (struct names and function names pairwise distinct): same constant table; type and function tables
equal as finite maps (permutations with pairwise distinct keys); the same multiset of errors; a panic in both or in
neither; and for every function the identical root block, i.e. the identical instruction stack and block tree. -/
theorem C16 (p p' : Program) (hperm : p.Perm p') (hc : p.cds = p'.cds)
    (ht : (p.tds.map (·.name)).Nodup) (hf : (p.fns.map (·.name)).Nodup) :
    (run p').consts = (run p).consts ∧
    (run p').types.Perm (run p).types ∧ ((run p).types.map (·.1)).Nodup ∧
    (run p').funcs.Perm (run p).funcs ∧ ((run p).funcs.map (·.1)).Nodup ∧
    (run p').errors.Perm (run p).errors ∧
    ((run p').panic.isSome = (run p).panic.isSome) ∧
    (p'.fns.zip (run p').roots).Perm (p.fns.zip (run p).roots) := by
  have hd := decl_perm p p' hperm hc ht hf
  have pfn := fns_perm hperm
  rw [run_eq p, run_eq p', globals_eq hd]
  dsimp only
  refine ⟨hd.consts, hd.types, hd.tkeys, hd.funcs, hd.fkeys, ?_, ?_, ?_⟩
  · exact hd.errors.append ((pfn.map _).map _).flatten.symm
  · rw [firstPanic_isSome, firstPanic_isSome]
    exact (pfn.map _).any_eq.symm
  · rw [List.map_map, List.map_map, zip_map_self, zip_map_self]
    exact (pfn.map _).symm

end SemVerif
