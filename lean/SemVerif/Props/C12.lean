import SemVerif.Spec.Preds
import SemVerif.Inventory
import SemVerif.Lemmas.StmtSteps
import SemVerif.Lemmas.Dts
import SemVerif.Lemmas.Misc
import SemVerif.Lemmas.Frames
/-!
# Property C12 — internal value names are unique per function and stable at every use

For every program and every function: the internal names introduced by `FunctionArg` and
`LetBinding` instructions of the function's stack are pairwise distinct, and every read, field
read and assignment carries a value record that an earlier declaration of the same stack
introduced.  Invariant: all live blocks hold the same registry of internal names, it contains
every declared name, a new declaration takes a name outside it (probe lemma), and every value in
a live block's table was introduced by a declaration of the root stack.
-/
namespace SemVerif

theorem declValues_cons_reverse (x : Instr) (xs : List Instr) (d : List Value) :
    (declValues (x :: xs)).reverse ++ d =
      (declValues xs).reverse ++ (match x.declares with | some v => v :: d | none => d) := by
  unfold declValues
  rw [List.filterMap_cons]
  cases x.declares with
  | none => rfl
  | some v => exact (List.reverse_cons ▸ List.append_assoc _ [v] d :)

theorem badUses_nil (d : List Value) (p : Nat) : badUses [] d p = [] := rfl

theorem badUses_cons (i : Instr) (rest : List Instr) (d : List Value) (p : Nat) :
    badUses (i :: rest) d p =
      (match i.usesValue with
        | some v => if d.contains v then [] else [p]
        | none => []) ++
      badUses rest (match i.declares with | some v => v :: d | none => d) (p + 1) := rfl

theorem badUses_append (l l' : List Instr) : ∀ (d : List Value) (p : Nat),
    badUses (l ++ l') d p = badUses l d p ++ badUses l' ((declValues l).reverse ++ d) (p + l.length) := by
  induction l with
  | nil => exact fun d p => rfl
  | cons x xs ih =>
    intro d p
    rw [List.cons_append, badUses_cons, badUses_cons, ih, declValues_cons_reverse, List.append_assoc,
      List.length_cons, Nat.add_right_comm, Nat.add_assoc]

theorem badUses_snoc (l : List Instr) (i : Instr) (h : ∀ v, i.usesValue = some v → v ∈ declValues l)
    (hl : badUses l [] 0 = []) : badUses (l ++ [i]) [] 0 = [] := by
  rw [badUses_append, hl, badUses_cons]
  cases hv : i.usesValue with
  | none => rfl
  | some v => simp [h v hv, badUses_nil]

structure NameInv (s : St) : Prop where
  sync : ∀ b ∈ s.frames, b.innerNames = s.root.innerNames
  reg : ∀ v ∈ declValues s.root.context, v.innerName ∈ s.root.innerNames
  nodup : (declNames s.root.context).Nodup
  vis : ∀ b ∈ s.frames, ∀ x ∈ b.values, x.2 ∈ declValues s.root.context
  uses : badUses s.root.context [] 0 = []

theorem nameInv_init : NameInv St.init := by
  have hf : ∀ b ∈ St.init.frames, b = Block.fresh := fun b hb => List.mem_singleton.mp hb
  refine ⟨fun b hb => hf b hb ▸ rfl, fun _ hv => (nomatch hv), List.nodup_nil, fun b hb x hx => ?_, rfl⟩
  rw [hf b hb] at hx
  exact nomatch hx

/-- the invariant reads the name registry and the value table of every live block and the root's stack:
it passes to a state whose root has the same declarations and no new bad use, and whose live blocks
take their registries from, and their values out of, live blocks of `s` -/
theorem nameInv_of_sub {s s' : St} (hd : declValues s'.root.context = declValues s.root.context)
    (hu : badUses s'.root.context [] 0 = [])
    (hf : ∀ b ∈ s'.frames, ∃ b0 ∈ s.frames, b.innerNames = b0.innerNames ∧ ∀ x ∈ b.values, x ∈ b0.values)
    (h : NameInv s) : NameInv s' := by
  have hn : ∀ b ∈ s'.frames, b.innerNames = s.root.innerNames := fun b hb => by
    obtain ⟨b0, hb0, e, _⟩ := hf b hb
    exact e.trans (h.sync b0 hb0)
  have hroot := hn s'.root (mem_frames.mpr (Or.inr rfl))
  refine ⟨fun b hb => ?_, ?_, ?_, fun b hb x hx => ?_, hu⟩
  · rw [hroot]; exact hn b hb
  · rw [hd, hroot]; exact h.reg
  · unfold declNames; rw [hd]; exact h.nodup
  · obtain ⟨b0, hb0, _, hv⟩ := hf b hb
    rw [hd]; exact h.vis b0 hb0 x (hv x hx)

/-- what the invariant sees of a live block -/
def nameView (b : Block) : List Name × List (Name × Value) × List Instr := (b.innerNames, b.values, b.context)

theorem nameInv_of_view {s s' : St} (h : s'.frames.map nameView = s.frames.map nameView) (inv : NameInv s) :
    NameInv s' := by
  have hc : s'.root.context = s.root.context := congrArg (·.2.2) (root_inner_of_frames_map h).1
  refine nameInv_of_sub (congrArg declValues hc) (hc ▸ inv.uses) (fun b hb => ?_) inv
  obtain ⟨b0, hb0, e⟩ := exists_of_map_eq h hb
  have ev : b0.values = b.values := congrArg (·.2.1) e
  exact ⟨b0, hb0, (congrArg (·.1) e).symm, fun x hx => ev ▸ hx⟩

theorem nameInv_mapFrames {s : St} (f : Block → Block) (hf : ∀ b, nameView (f b) = nameView b) (h : NameInv s) :
    NameInv (s.mapFrames f) :=
  nameInv_of_view (frames_map_mapFrames nameView f hf s) h

theorem nameInv_mapCur {s : St} (f : Block → Block) (hf : ∀ b, nameView (f b) = nameView b) (h : NameInv s) :
    NameInv (s.mapCur f) :=
  nameInv_of_view (frames_map_mapCur nameView f hf s) h

theorem nameInv_push {s : St} (h : NameInv s) (i : Instr) (hd : i.declares = none)
    (hu : ∀ v, i.usesValue = some v → ∃ n, s.lookupValue n = some v) : NameInv (s.push i) := by
  refine nameInv_of_sub ?_ (badUses_snoc _ i (fun v hv => ?_) h.uses) (fun b hb => ?_) h
  · show declValues (s.root.context ++ [i]) = _
    rw [declValues_append, hd]; exact List.append_nil _
  · obtain ⟨n, hn⟩ := hu v hv
    obtain ⟨b, hb, hm⟩ := lookupValue_mem s n v hn
    exact h.vis b hb (n, v) hm
  · rw [St.push, frames_mapFrames] at hb
    obtain ⟨b0, hb0, rfl⟩ := List.mem_map.mp hb
    exact ⟨b0, hb0, rfl, fun x hx => hx⟩

theorem lookupValue_mapFrames (f : Block → Block) (hf : ∀ b, (f b).values = b.values) (s : St) (n : Name) :
    (s.mapFrames f).lookupValue n = s.lookupValue n := by
  unfold St.lookupValue
  rw [frames_mapFrames, List.findSome?_map]
  congr 1
  funext b
  exact congrArg (assocGet n) (hf b)

/-- what a declaration has to do to a state: its instruction on the root's stack, its internal name (which
no registry holds yet) into every registry, its value at most into the tables -/
theorem nameInv_of_decl {s s' : St} {n : Name} {v : Value} {i : Instr} (h : NameInv s) (hi : i.declares = some v)
    (hu : i.usesValue = none) (hfresh : v.innerName ∉ s.root.innerNames)
    (hc : s'.root.context = s.root.context ++ [i])
    (hf : ∀ b ∈ s'.frames, ∃ b0 ∈ s.frames,
      b.innerNames = setInsert v.innerName b0.innerNames ∧ ∀ x ∈ b.values, x = (n, v) ∨ x ∈ b0.values) :
    NameInv s' := by
  have hdv : declValues s'.root.context = declValues s.root.context ++ [v] := by
    rw [hc, declValues_append, hi]
  have hn : ∀ b ∈ s'.frames, b.innerNames = setInsert v.innerName s.root.innerNames := fun b hb => by
    obtain ⟨b0, hb0, e, _⟩ := hf b hb
    rw [e, h.sync b0 hb0]
  have hroot := hn s'.root (mem_frames.mpr (Or.inr rfl))
  refine ⟨fun b hb => ?_, fun w hw => ?_, ?_, fun b hb x hx => ?_, ?_⟩
  · rw [hroot]; exact hn b hb
  · rw [hroot, mem_setInsert]
    rcases List.mem_append.mp (hdv ▸ hw) with hw | hw
    · exact Or.inr (h.reg w hw)
    · exact Or.inl (congrArg _ (List.mem_singleton.mp hw))
  · -- the new name is outside the registry, which holds every name declared so far
    unfold declNames
    rw [hdv, List.map_append, List.map_cons, List.map_nil, List.nodup_append]
    refine ⟨h.nodup, List.pairwise_singleton _ _, fun a ha b hb e => hfresh ?_⟩
    obtain ⟨w, hw, rfl⟩ := List.mem_map.mp ha
    rw [← List.mem_singleton.mp hb, ← e]
    exact h.reg w hw
  · obtain ⟨b0, hb0, _, hv⟩ := hf b hb
    rw [hdv]
    rcases hv x hx with rfl | hx
    · exact List.mem_append_right _ (List.mem_singleton_self v)
    · exact List.mem_append_left _ (h.vis b0 hb0 x hx)
  · rw [hc]
    exact badUses_snoc _ i (fun v hv => nomatch hu ▸ hv) h.uses

theorem nameInv_estep {s s' : St} (h : NameInv s) (st : EStep s s') : NameInv s' := by
  cases st with
  | incReg => exact nameInv_mapFrames _ (fun _ => rfl) h
  | emit i _ hd _ hu => exact nameInv_push h i hd hu
  | incEmit i _ hd _ hu =>
    have h1 : NameInv s.incReg := nameInv_mapFrames _ (fun _ => rfl) h
    refine nameInv_push h1 i hd (fun v hv => ?_)
    obtain ⟨n, hn⟩ := hu v hv
    have hl : s.incReg.lookupValue n = s.lookupValue n :=
      lookupValue_mapFrames (fun b => { b with reg := s.cur.reg + 1 }) (fun _ => rfl) s n
    exact ⟨n, hl.trans hn⟩
  | addErr k v l o => exact nameInv_of_view (s := s) rfl h
  | declare n v i hi _ _ hu hfresh =>
    have hc : (s.insertValue n v).root.context = s.root.context :=
      root_mapCur (·.context) (fun b => { b with values := assocInsert n v b.values }) (fun _ => rfl) s
    refine nameInv_of_decl (n := n) h hi hu (innerUsed_false_root hfresh) (congrArg (· ++ [i]) hc) (fun b hb => ?_)
    rw [St.push, St.registerInner, frames_mapFrames, frames_mapFrames, St.insertValue, frames_mapCur_cur,
      List.map_map, List.map_cons] at hb
    rcases List.mem_cons.mp hb with rfl | hb
    · exact ⟨s.cur, cur_mem_frames s, rfl, fun x hx => mem_assocInsert n v _ x hx⟩
    · obtain ⟨b0, hb0, rfl⟩ := List.mem_map.mp hb
      exact ⟨b0, List.mem_of_mem_tail hb0, rfl, fun x hx => Or.inr hx⟩

theorem nameInv_step {s s' : St} (h : NameInv s) (st : Step s s') : NameInv s' := by
  cases st with
  | e he => exact nameInv_estep h he
  | enter =>
    refine nameInv_of_sub (s := s) rfl h.uses (fun b hb => ?_) h
    rw [frames_enter] at hb
    rcases List.mem_cons.mp hb with rfl | hb
    · exact ⟨s.cur, cur_mem_frames s, rfl, fun _ hx => nomatch hx⟩
    · exact ⟨b, hb, rfl, fun _ hx => hx⟩
  | leave =>
    have hc := (root_leave_fields s).1
    refine nameInv_of_sub (congrArg declValues hc) (hc ▸ h.uses) (fun b hb => ?_) h
    obtain ⟨b', hb', _, hv, hn, _⟩ := mem_frames_leave s b hb
    exact ⟨b', hb', hn, fun x hx => hv ▸ hx⟩
  | regLabel l _ => exact nameInv_mapFrames _ (fun _ => rfl) h
  | ctl i _ hd hu => exact nameInv_push h i hd (fun v hv => nomatch hu ▸ hv)
  | emitRet i _ _ hd _ hu => exact nameInv_push h i hd (fun v hv => nomatch hu ▸ hv)
  | ctlVia k i _ hd hu =>
    refine nameInv_push ?_ i hd (fun v hv => nomatch hu ▸ hv)
    exact nameInv_mapCur _ (fun _ => rfl) h
  | setReturn => exact nameInv_mapFrames _ (fun _ => rfl) h
  | setPanic site =>
    unfold St.setPanic
    cases s.panic
    · exact nameInv_of_view (s := s) rfl h
    · exact h

theorem nameInv_steps {s s' : St} (h : NameInv s) (st : Steps s s') : NameInv s' := by
  induction st with
  | refl => exact h
  | tail _ st ih => exact nameInv_step ih st

/-- C12 for one function -/
theorem C12_function (g : Globals) (f : FnDecl) :
    nodupB (declNames (functionBody g f).root.context) = true ∧ badUses (functionBody g f).root.context [] 0 = [] := by
  have h := nameInv_steps nameInv_init (steps_functionBody g f)
  exact ⟨nodupB_of_nodup _ h.nodup, h.uses⟩

/-- **C12** — for every program the output predicate holds on the model's result: no internal
name is declared twice in a function, and every read / field read / assignment carries a record
introduced by an earlier declaration of the same function -/
theorem C12 (p : Program) : P_C12 (run p) = [] := by
  unfold P_C12
  rw [List.flatMap_eq_nil_iff]
  intro ⟨b, i⟩ hx
  obtain ⟨s, hs, rfl⟩ := List.mem_map.mp (List.fst_mem_of_mem_zipIdx hx)
  obtain ⟨f, _, rfl⟩ := List.mem_map.mp hs
  obtain ⟨h1, h2⟩ := C12_function (pass2 p (pass1 p GState.init)).globals f
  simp [h1, h2]

end SemVerif
