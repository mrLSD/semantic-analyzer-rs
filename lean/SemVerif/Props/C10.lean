import SemVerif.Spec.Preds
import SemVerif.Inventory
import SemVerif.Lemmas.StmtSteps
import SemVerif.Lemmas.Frames
import SemVerif.Lemmas.Misc
/-!
# Property C10 — labels are set once (every program)

`C10_unique`: for every program and every function, no label is set twice in the function's stack.
Invariant `LInv`: the labels set in the root stack are pairwise distinct and registered.  Frame
property `LExt`: the registry only grows, and a registered label that is not yet set stays unset
unless the construct allocated it itself (`Pending`; `Res` is both together, `Good` that a construct preserves
them; `Pend` carries a construct's pending labels
from its prologue to the place where each is set).  A label is set only by the construct that
obtained it from the probe, which returns a name outside the function-wide registry
(`St.probeLabel_fresh`).  Induction over the control constructs (`BodyInd`); everything below
statement level is an expression-level step chain and touches neither registry nor labels.

The resolution half of C10 (every jump target is set, up to finding F3) is `Props/C10Res`.
-/
namespace SemVerif

theorem setLabels_append (a b : List Instr) : setLabels (a ++ b) = setLabels a ++ setLabels b := by
  simp [setLabels, List.filterMap_append]

theorem setLabels_snoc_plain (c : List Instr) (i : Instr) (h : i.setsLabel = none) :
    setLabels (c ++ [i]) = setLabels c := by
  rw [setLabels_append]; simp [setLabels, List.filterMap, h]

theorem setLabels_snoc_label (c : List Instr) (l : Name) :
    setLabels (c ++ [.setLabel l]) = setLabels c ++ [l] := by
  rw [setLabels_append]; simp [setLabels, List.filterMap, Instr.setsLabel]

def LInv (s : St) : Prop :=
  (setLabels s.root.context).Nodup ∧ ∀ l ∈ setLabels s.root.context, l ∈ s.root.labels

def LExt (s s' : St) : Prop :=
  (∀ l ∈ s.root.labels, l ∈ s'.root.labels) ∧
  (∀ l ∈ s.root.labels, l ∉ setLabels s.root.context → l ∉ setLabels s'.root.context)

def Good (s s' : St) : Prop := LInv s → LInv s' ∧ LExt s s'

theorem LExt.refl (s : St) : LExt s s := ⟨fun _ h => h, fun _ _ h => h⟩

theorem LExt.trans {a b c : St} (h1 : LExt a b) (h2 : LExt b c) : LExt a c :=
  ⟨fun l h => h2.1 l (h1.1 l h), fun l h hn => h2.2 l (h1.1 l h) (h1.2 l h hn)⟩

theorem Good.refl (s : St) : Good s s := fun h => ⟨h, LExt.refl s⟩

theorem Good.trans {a b c : St} (h1 : Good a b) (h2 : Good b c) : Good a c := fun h =>
  let ⟨i1, e1⟩ := h1 h
  let ⟨i2, e2⟩ := h2 i1
  ⟨i2, e1.trans e2⟩

theorem good_of_same {s s' : St} (hl : s'.root.labels = s.root.labels)
    (hc : setLabels s'.root.context = setLabels s.root.context) : Good s s' := by
  intro ⟨h1, h2⟩
  refine ⟨⟨by rw [hc]; exact h1, by rw [hc, hl]; exact h2⟩, ⟨by rw [hl]; exact fun _ h => h, ?_⟩⟩
  rw [hc]; exact fun _ _ h => h

theorem root_push (i : Instr) (s : St) :
    (s.push i).root.context = s.root.context ++ [i] ∧ (s.push i).root.labels = s.root.labels := ⟨rfl, rfl⟩

theorem root_pushVia (k : Nat) (i : Instr) (s : St) :
    (s.pushVia k i).root.context = s.root.context ++ [i] ∧ (s.pushVia k i).root.labels = s.root.labels := by
  unfold St.pushVia St.push St.mapFrames St.mapCur
  cases s.inner <;> exact ⟨rfl, rfl⟩

theorem root_setPanic (site : Nat) (s : St) : (s.setPanic site).root = s.root := by
  unfold St.setPanic
  cases s.panic <;> rfl

theorem good_push_plain (s : St) (i : Instr) (h : i.setsLabel = none) : Good s (s.push i) :=
  good_of_same rfl (by rw [(root_push i s).1, setLabels_snoc_plain _ _ h])

theorem good_pushVia_plain (s : St) (k : Nat) (i : Instr) (h : i.setsLabel = none) : Good s (s.pushVia k i) :=
  good_of_same (root_pushVia k i s).2 (by rw [(root_pushVia k i s).1, setLabels_snoc_plain _ _ h])

theorem good_enter (s : St) : Good s s.enter := good_of_same rfl rfl

theorem good_leave (s : St) : Good s s.leave.2 :=
  good_of_same (root_leave_fields s).2.2.2.1 (by rw [(root_leave_fields s).1])

theorem good_estep {s s' : St} (st : EStep s s') : Good s s' := by
  cases st with
  | incReg => exact good_of_same rfl rfl
  | emit i _ _ hl _ => exact good_push_plain s i hl
  | incEmit i _ _ hl _ => exact (good_of_same (s := s) (s' := s.incReg) rfl rfl).trans (good_push_plain _ i hl)
  | addErr k v l o => exact good_of_same rfl rfl
  | declare n v i _ _ hl _ _ =>
    refine Good.trans (good_of_same ?_ ?_) (good_push_plain _ i hl)
    · unfold St.registerInner St.mapFrames St.insertValue St.mapCur; cases s.inner <;> rfl
    · unfold St.registerInner St.mapFrames St.insertValue St.mapCur; cases s.inner <;> rfl

theorem good_esteps {s s' : St} (st : ESteps s s') : Good s s' := by
  induction st with
  | refl => exact Good.refl _
  | tail _ st ih => exact ih.trans (good_estep st)

theorem good_bsteps {s s' : St} (h : BSteps s s') : Good s s' := by
  obtain ⟨s1, h1, rfl | ⟨i, rfl, _, _, hl, _⟩⟩ := h
  · exact good_esteps h1
  · exact (good_esteps h1).trans (good_push_plain _ i hl)

theorem good_fnReturn (g : Globals) (resTy : Ty) (e : Expr) (rc : Bool) (s : St) : Good s (fnReturn g resTy e rc s).1 := by
  obtain ⟨s2, h, hq | ⟨r, hq⟩⟩ := fnReturn_split g resTy e rc s
  · rw [hq]; exact good_esteps h
  · rw [hq]; dsimp only; split <;> exact (good_esteps h).trans (good_push_plain _ _ rfl)

theorem good_nestedReturn (g : Globals) (e : Expr) (s : St) : Good s (nestedReturn g e s).1 := by
  obtain ⟨s1, h1, h | ⟨r, h⟩⟩ := esteps_nestedReturn_pre g e s
  · rw [h]; exact good_esteps h1
  · rw [h]; exact ((good_esteps h1).trans (good_push_plain _ _ rfl)).trans (good_of_same rfl rfl)

theorem fresh_spec (s : St) (stem : Name) :
    (s.probeLabel stem).1 ∉ s.root.labels ∧
    (∀ x, x ∈ (s.probeLabel stem).2.root.labels ↔ x = (s.probeLabel stem).1 ∨ x ∈ s.root.labels) ∧
    (s.probeLabel stem).2.root.context = s.root.context := by
  have hf := St.probeLabel_fresh s stem
  refine ⟨?_, ?_, rfl⟩
  · intro hm
    unfold St.labelUsed at hf
    have : (s.frames.any fun b => b.labels.contains (s.probeLabel stem).1) = true := by
      rw [List.any_eq_true]
      exact ⟨s.root, by simp [St.frames], by simpa using hm⟩
    rw [this] at hf; cases hf
  · intro x
    show x ∈ setInsert _ s.root.labels ↔ _
    exact mem_setInsert _ _ _

theorem good_fresh (s : St) (stem : Name) : Good s (s.probeLabel stem).2 := by
  intro ⟨h1, h2⟩
  obtain ⟨_, hl, hc⟩ := fresh_spec s stem
  refine ⟨⟨by rw [hc]; exact h1, ?_⟩, ⟨?_, ?_⟩⟩
  · intro l hl'; rw [hc] at hl'; exact (hl l).mpr (Or.inr (h2 l hl'))
  · intro l h; exact (hl l).mpr (Or.inr h)
  · intro l _ hn; rw [hc]; exact hn

def Res (s0 s : St) : Prop := LInv s ∧ LExt s0 s

def Pending (s0 s : St) (l : Name) : Prop :=
  l ∈ s.root.labels ∧ l ∉ setLabels s.root.context ∧ l ∉ s0.root.labels

/-- inside a construct that started at `s0`: its result so far, and the labels it has allocated and
still has to set -/
def Pend (s0 s : St) (P : Name → Prop) : Prop := Res s0 s ∧ ∀ l, P l → Pending s0 s l

theorem Pend.start {s : St} (hi : LInv s) : Pend s s (fun _ => False) := ⟨⟨hi, LExt.refl s⟩, fun _ h => h.elim⟩

theorem Pend.step {s0 s s' : St} {P : Name → Prop} (h : Pend s0 s P) (g : Good s s') : Pend s0 s' P :=
  let ⟨i, e⟩ := g h.1.1
  ⟨⟨i, h.1.2.trans e⟩, fun l hl => let ⟨p1, p2, p3⟩ := h.2 l hl; ⟨e.1 l p1, e.2 l p1 p2, p3⟩⟩

/-- a probed label is new to the registry, hence different from the pending ones, and pending itself -/
theorem Pend.probe {s0 s : St} {P : Name → Prop} (h : Pend s0 s P) (stem : Name) :
    Pend s0 (s.probeLabel stem).2 (fun l => l = (s.probeLabel stem).1 ∨ P l) ∧ ¬ P (s.probeLabel stem).1 := by
  obtain ⟨hn, hl, hc⟩ := fresh_spec s stem
  have h' := h.step (good_fresh s stem)
  refine ⟨⟨h'.1, fun l hp => ?_⟩, fun hp => hn (h.2 _ hp).1⟩
  rcases hp with rfl | hp
  · exact ⟨(hl _).mpr (Or.inl rfl), by rw [hc]; exact fun hm => hn (h.1.1.2 _ hm), fun hm => hn (h.1.2.1 _ hm)⟩
  · exact h'.2 l hp

theorem Pend.set {s0 s s' : St} {P : Name → Prop} {l : Name} (h : Pend s0 s P) (hl : P l)
    (hroot : s'.root.context = s.root.context ++ [.setLabel l] ∧ s'.root.labels = s.root.labels) :
    Pend s0 s' (fun x => P x ∧ x ≠ l) := by
  obtain ⟨⟨⟨h1, h2⟩, e1, e2⟩, hP⟩ := h
  obtain ⟨p1, p2, p3⟩ := hP l hl
  have hc : setLabels s'.root.context = setLabels s.root.context ++ [l] := by rw [hroot.1, setLabels_snoc_label]
  have hm : ∀ x, x ∈ setLabels s'.root.context ↔ x ∈ setLabels s.root.context ∨ x = l := by
    intro x
    rw [hc, List.mem_append, List.mem_singleton]
  refine ⟨⟨⟨?_, ?_⟩, ?_, ?_⟩, ?_⟩
  · rw [hc]
    refine List.nodup_append.mpr ⟨h1, List.pairwise_singleton _ l, fun a ha b hb e => ?_⟩
    rw [e, List.mem_singleton.mp hb] at ha
    exact p2 ha
  · intro x hx; rw [hroot.2]
    rcases (hm x).mp hx with hx | rfl
    · exact h2 x hx
    · exact p1
  · intro x hx; rw [hroot.2]; exact e1 x hx
  · intro x hx hxn hx'
    rcases (hm x).mp hx' with hx' | rfl
    · exact e2 x hx hxn hx'
    · exact p3 hx
  · intro x ⟨hx, hne⟩
    obtain ⟨q1, q2, q3⟩ := hP x hx
    refine ⟨hroot.2 ▸ q1, fun hx' => ?_, q3⟩
    rcases (hm x).mp hx' with hx' | e
    · exact q2 hx'
    · exact hne e

/-- after the prologue of an `if` the else label is pending, and so is the end label if the `if`
allocated it itself -/
theorem ifPrologue_spec (g : Globals) (cond : IfCond) (dup isElse : Bool) (le : Option Name) (s : St) (hi : LInv s) :
    ∃ P, Pend s (ifPrologue g cond dup isElse le s).2.2 P ∧ P (ifPrologue g cond dup isElse le s).1 ∧
      (le = none → P (ifPrologue g cond dup isElse le s).2.1 ∧
        (ifPrologue g cond dup isElse le s).2.1 ≠ (ifPrologue g cond dup isElse le s).1) := by
  unfold ifPrologue ifLabels
  dsimp only
  have h0 : Pend s (if dup then s.addErr .ifElseDuplicated "if-condition".toList 1 0 else s).enter (fun _ => False) := by
    cases dup <;> exact (Pend.start hi).step (good_of_same rfl rfl)
  generalize (if dup then s.addErr .ifElseDuplicated "if-condition".toList 1 0 else s) = s0 at h0
  obtain ⟨h1, _⟩ := h0.probe "if_begin".toList
  generalize s0.enter.probeLabel "if_begin".toList = r1 at h1
  obtain ⟨lb, s1⟩ := r1
  obtain ⟨h2, n2⟩ := h1.probe "if_else".toList
  generalize s1.probeLabel "if_else".toList = r2 at h2 n2
  obtain ⟨lElse, s2⟩ := r2
  cases le with
  | some l =>
    have h3 := (h2.step (good_bsteps (esteps_ifCondCalc g cond lb lElse l isElse s2))).set
      (l := lb) (Or.inr (Or.inl rfl)) (root_push _ _)
    exact ⟨_, h3, ⟨Or.inl rfl, fun e => n2 (Or.inl e)⟩, fun h => nomatch h⟩
  | none =>
    dsimp only
    obtain ⟨h3, n3⟩ := h2.probe "if_end".toList
    generalize s2.probeLabel "if_end".toList = r3 at h3 n3
    obtain ⟨lEnd, s3⟩ := r3
    have h4 := (h3.step (good_bsteps (esteps_ifCondCalc g cond lb lElse lEnd isElse s3))).set
      (l := lb) (Or.inr (Or.inr (Or.inl rfl))) (root_push _ _)
    exact ⟨_, h4, ⟨Or.inr (Or.inl rfl), fun e => n2 (Or.inl e)⟩,
      fun _ => ⟨⟨Or.inl rfl, fun e => n3 (Or.inr (Or.inl e))⟩, fun e => n3 (Or.inl e)⟩⟩

theorem ifAfterBody_spec {s0 : St} {P : Name → Prop} (isElse r : Bool) (lElse lEnd : Name) (s : St)
    (h : Pend s0 s P) (pe : P lElse) : Pend s0 (ifAfterBody isElse r lElse lEnd s).2 (fun x => P x ∧ x ≠ lElse) := by
  unfold ifAfterBody
  dsimp only
  have h1 : Pend s0 (if r then s else s.push (.jumpTo lEnd)) P := by
    cases r
    · exact h.step (good_push_plain _ _ rfl)
    · exact h
  generalize (if r then s else s.push (.jumpTo lEnd)) = s1 at h1
  cases isElse with
  | false => exact ⟨(h1.step (good_leave s1)).1, fun l hl => (h1.step (good_leave s1)).2 l hl.1⟩
  | true => exact (h1.set pe (root_push (.setLabel lElse) s1)).step (good_leave _)

theorem ifAfterElse_spec {s0 : St} {P : Name → Prop} (k : Nat) (r : Bool) (lEnd : Name) (s : St) (h : Pend s0 s P) :
    Pend s0 (ifAfterElse k r lEnd s) P := by
  unfold ifAfterElse
  cases r
  · exact (h.step (good_leave s)).step (good_pushVia_plain _ _ _ rfl)
  · exact h.step (good_leave s)

theorem ifEpilogue_spec {s0 : St} {P : Name → Prop} (k : Nat) (le : Option Name) (lEnd : Name) (s : St)
    (h : Pend s0 s P) (pd : le = none → P lEnd) : Res s0 (ifEpilogue k le lEnd s) := by
  unfold ifEpilogue
  cases le with
  | some l => exact h.1
  | none => exact (h.set (pd rfl) (root_pushVia k (.setLabel lEnd) s)).1

/-- after the prologue of a loop the end label is pending -/
theorem loopPrologue_spec (s : St) (hi : LInv s) :
    ∃ P, Pend s (loopPrologue s).2.2 P ∧ P (loopPrologue s).2.1 := by
  unfold loopPrologue
  dsimp only
  obtain ⟨h1, _⟩ := ((Pend.start hi).step (good_enter s)).probe "loop_begin".toList
  generalize s.enter.probeLabel "loop_begin".toList = r1 at h1
  obtain ⟨lb, s1⟩ := r1
  obtain ⟨h2, n2⟩ := h1.probe "loop_end".toList
  generalize s1.probeLabel "loop_end".toList = r2 at h2 n2
  obtain ⟨le, s2⟩ := r2
  exact ⟨_, (h2.step (good_push_plain _ (.jumpTo lb) rfl)).set (l := lb) (Or.inr (Or.inl rfl)) (root_push _ _),
    Or.inl rfl, fun e => n2 (Or.inl e)⟩

theorem loopEpilogue_spec {s0 : St} {P : Name → Prop} (r : Bool) (lb le : Name) (s : St) (h : Pend s0 s P) (pe : P le) :
    Res s0 (loopEpilogue r lb le s) := by
  unfold loopEpilogue
  cases r
  · exact (((h.step (good_push_plain _ (.jumpTo lb) rfl)).set pe (root_push _ _)).step (good_leave _)).1
  · exact (h.step (good_leave s)).1

theorem good_loopWrap (k : Name → Name → Bool → Bool → Bool → St → St × Bool)
    (hk : ∀ lb le rc bc cc s, Good s (k lb le rc bc cc s).1) (s : St) : Good s (loopWrap k s) := by
  intro hi
  unfold loopWrap
  dsimp only
  obtain ⟨P, hp, pe⟩ := loopPrologue_spec s hi
  exact loopEpilogue_spec _ _ _ _ (hp.step (hk _ _ _ _ _ _)) pe

theorem good_nStmt (g : Globals) (K : BodyK) (st : NStmt) (f : Flags) (s : St)
    (h : st.Sub (fun i => ∀ le ll s, Good s (ifCondition g i le ll s))
      (fun l => ∀ lb le rc bc cc s, Good s (loopBody g l lb le rc bc cc s).1)) :
    Good s (nStmt g K st f s).1 := by
  unfold nStmt
  have h0 := good_esteps (esteps_forbidden f.rc f.bc f.cc s)
  generalize forbidden f.rc f.bc f.cc s = s0 at h0
  cases st with
  | letB b => exact h0.trans (good_esteps (esteps_letBinding g b s0))
  | bind b => exact h0.trans (good_esteps (esteps_binding g b s0))
  | call c => exact h0.trans (good_esteps (esteps_callStmt g c s0))
  | ifS i => exact h0.trans (h _ _ s0)
  | loop l => exact h0.trans (good_loopWrap _ h s0)
  | ret e => exact h0.trans (good_nestedReturn g e s0)
  | brk => exact h0.trans (good_push_plain _ _ rfl)
  | cont => exact h0.trans (good_push_plain _ _ rfl)

theorem good_ind (g : Globals) :
    BodyInd (fun i => ∀ le ll s, Good s (ifCondition g i le ll s))
      (fun b => ∀ lEnd ll s, Good s (ifBodies g b lEnd ll s).1)
      (fun l => ∀ lEnd ll rc s, Good s (ifBody g l lEnd ll rc s).1)
      (fun l => ∀ lEnd lb le rc bc cc s, Good s (ifLoopBody g l lEnd lb le rc bc cc s).1)
      (fun l => ∀ lb le rc bc cc s, Good s (loopBody g l lb le rc bc cc s).1) where
  ifS cond body els elif hbody hels helif le ll s := by
    intro hi
    unfold ifCondition
    dsimp only
    obtain ⟨P, hp, hE, hD⟩ := ifPrologue_spec g cond (els.isSome && elif.isSome) (els.isSome || elif.isSome) le s hi
    generalize ifPrologue g cond (els.isSome && elif.isSome) (els.isSome || elif.isSome) le s = p at hp hE hD
    obtain ⟨lElse, lEnd, s1⟩ := p
    have hb := hp.step (hbody lEnd ll s1)
    generalize ifBodies g body lEnd ll s1 = q at hb
    obtain ⟨s2, r⟩ := q
    have ha := ifAfterBody_spec (els.isSome || elif.isSome) r lElse lEnd s2 hb hE
    generalize ifAfterBody (els.isSome || elif.isSome) r lElse lEnd s2 = q3 at ha
    obtain ⟨k, s3⟩ := q3
    refine ifEpilogue_spec (P := fun x => P x ∧ x ≠ lElse) k le lEnd _ ?_ hD
    cases els with
    | some eb =>
      exact ifAfterElse_spec k _ lEnd _ ((ha.step (good_enter s3)).step (hels eb rfl lEnd ll s3.enter))
    | none =>
      cases elif with
      | some ei => exact ha.step (helif ei rfl (some lEnd) ll s3)
      | none => exact ha
  ifb l h lEnd ll s := h lEnd ll false s
  loopb l h lEnd ll s := by
    cases ll with
    | some p => exact h lEnd p.1 p.2 false false false s
    | none => exact good_of_same (by rw [ifBodies, root_setPanic]) (by rw [ifBodies, root_setPanic])
  ifNil _ _ _ s := Good.refl s
  ifCons st tl h ht lEnd ll rc s := by
    rw [ifBody_cons]
    exact (good_nStmt g _ st.toN _ s h).trans (ht lEnd ll _ _)
  ifLoopNil _ _ _ _ _ _ s := Good.refl s
  ifLoopCons st tl h ht lEnd lb le rc bc cc s := by
    rw [ifLoopBody_cons]
    exact (good_nStmt g _ st.toN _ s h).trans (ht lEnd lb le _ _ _ _)
  loopNil _ _ _ _ _ s := Good.refl s
  loopCons st tl h ht lb le rc bc cc s := by
    rw [loopBody_cons]
    exact (good_nStmt g _ st.toN _ s h).trans (ht lb le _ _ _ _)

theorem good_ifCondition (g : Globals) : ∀ (i : IfStmt) (le : Option Name) (ll : Option (Name × Name)) (s : St),
    Good s (ifCondition g i le ll s) := (good_ind g).ifStmt

theorem good_ifBodies (g : Globals) : ∀ (b : IfBodies) (lEnd : Name) (ll : Option (Name × Name)) (s : St),
    Good s (ifBodies g b lEnd ll s).1 := (good_ind g).bodies

theorem good_ifBody (g : Globals) : ∀ (l : List IfBodyStmt) (lEnd : Name) (ll : Option (Name × Name)) (rc : Bool) (s : St),
    Good s (ifBody g l lEnd ll rc s).1 := (good_ind g).ifBody

theorem good_ifLoopBody (g : Globals) : ∀ (l : List IfLoopStmt) (lEnd lb le : Name) (rc bc cc : Bool) (s : St),
    Good s (ifLoopBody g l lEnd lb le rc bc cc s).1 := (good_ind g).ifLoopBody

theorem good_loopBody (g : Globals) : ∀ (l : List LoopStmt) (lb le : Name) (rc bc cc : Bool) (s : St),
    Good s (loopBody g l lb le rc bc cc s).1 := (good_ind g).loopBody

theorem good_bodyStmts (g : Globals) (resTy : Ty) (l : List BodyStmt) (rc : Bool) (s : St) :
    Good s (bodyStmts g resTy l rc s).1 := by
  induction l generalizing rc s with
  | nil => exact Good.refl s
  | cons st tl ht =>
    rw [bodyStmts_cons]
    cases st.split with
    | inl n => exact (good_nStmt g _ n _ s ((good_ind g).sub n)).trans (ht _ _)
    | inr e =>
      exact ((good_esteps (esteps_forbidden rc false false s)).trans (good_fnReturn g resTy e rc _)).trans (ht _ _)

theorem good_functionBody (g : Globals) (f : FnDecl) : Good St.init (functionBody g f) := by
  unfold functionBody
  dsimp only
  have h2 := (good_esteps (esteps_initParams f.params St.init paramInv_init)).trans
    (good_bodyStmts g f.result.toTy f.body false _)
  generalize bodyStmts g f.result.toTy f.body false (initParams f.params St.init) = q at h2
  obtain ⟨s2, rc⟩ := q
  cases rc
  · exact h2.trans (good_estep (EStep.addErr _ _ _ _ _))
  · exact h2

theorem lInv_init : LInv St.init := by simp [LInv, St.init, Block.fresh, setLabels]

/-- C10 (uniqueness) for one function, as a `List.Nodup` statement -/
theorem C10_nodup_function (g : Globals) (f : FnDecl) : (setLabels (functionBody g f).root.context).Nodup :=
  (good_functionBody g f lInv_init).1.1

/-- C10 (uniqueness) for one function: no label is set twice -/
theorem C10_unique_function (g : Globals) (f : FnDecl) :
    nodupB (setLabels (functionBody g f).root.context) = true := by
  exact nodupB_of_nodup _ (C10_nodup_function g f)

/-- **C10 (uniqueness)** — for every program, no function stack sets a label twice -/
theorem C10_unique (p : Program) : P_C10_unique (run p) = [] := by
  unfold P_C10_unique run
  rw [List.map_eq_nil_iff, List.filter_eq_nil_iff]
  intro x hx
  obtain ⟨b, i⟩ := x
  have hb := List.mem_zipIdx hx
  have : b ∈ List.map (fun s => s.root) (List.map (functionBody (pass2 p (pass1 p GState.init)).globals) p.fns) := by
    have := hb.2.2
    simp only at this
    rw [this]; exact List.getElem_mem _
  simp only [List.mem_map] at this
  obtain ⟨s, ⟨f, _, rfl⟩, rfl⟩ := this
  simp [C10_unique_function]

end SemVerif
