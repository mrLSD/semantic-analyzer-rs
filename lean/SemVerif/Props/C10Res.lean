import SemVerif.Props.C10
import SemVerif.Spec.Findings
import SemVerif.Lemmas.Misc
import SemVerif.Driver
/-!
# Property C10, second half — every jump target is set, up to the recorded finding F3

`C10_resolved_function`: for **every** program (accepted or not) and every function, a label that is the
target of a `JumpTo` / `IfConditionExpression` / `IfConditionLogic` of the function's root stack and
is not set by any `SetLabel` of that stack is the end label of a loop, and the function matches the
recorded finding F3 (some loop has a loop-level `Return` and a `Break` that targets it — the
analyzer then never sets that loop's end label; the existing test
`loop_statements_with_return_invocation` expects this stack).  In particular a function without the F3 pattern has no
unresolved jump target.

Proof: `Resv A s s'` — set labels only grow, and every target unresolved after was unresolved before
or satisfies the *allowance* `A`: the label the construct was handed by its parent (`labelEnd`), the
enclosing loop's labels (the end label only if the construct syntactically contains a `Break` for
that loop), or an F3 leftover of an inner loop.  Every construct discharges the labels it introduces
(`Resv.cut`).  Induction over if / else / else-if / loop at any depth (`BodyInd`); below the control
constructs no instruction names a label (`ESteps` pushes have no targets).
-/
namespace SemVerif

theorem jumpTargets_append (a b : List Instr) : jumpTargets (a ++ b) = jumpTargets a ++ jumpTargets b := by
  simp [jumpTargets, List.flatMap_append]

def Unres (s : St) (l : Name) : Prop := l ∈ jumpTargets s.root.context ∧ l ∉ setLabels s.root.context

def Resv (A : Name → Prop) (s s' : St) : Prop :=
  (∀ l ∈ setLabels s.root.context, l ∈ setLabels s'.root.context) ∧ ∀ l, Unres s' l → Unres s l ∨ A l

theorem Resv.refl (A : Name → Prop) (s : St) : Resv A s s := ⟨fun _ h => h, fun _ h => Or.inl h⟩

theorem Resv.mono {A B : Name → Prop} {s s' : St} (h : Resv A s s') (hab : ∀ l, A l → B l) : Resv B s s' :=
  ⟨h.1, fun l hl => (h.2 l hl).imp id (hab l)⟩

theorem Resv.trans {A : Name → Prop} {a b c : St} (h1 : Resv A a b) (h2 : Resv A b c) : Resv A a c :=
  ⟨fun l hl => h2.1 l (h1.1 l hl), fun l hl => by
    rcases h2.2 l hl with h | h
    · exact h1.2 l h
    · exact Or.inr h⟩

/-- a label that is set afterwards is not unresolved: it can be removed from the allowance -/
theorem Resv.cut {A B : Name → Prop} {s s' : St} (h : Resv A s s') (l0 : Name) (hset : l0 ∈ setLabels s'.root.context)
    (hA : ∀ l, A l → l ≠ l0 → B l) : Resv B s s' :=
  ⟨h.1, fun l hl => by
    rcases h.2 l hl with h1 | h1
    · exact Or.inl h1
    · exact Or.inr (hA l h1 (fun e => hl.2 (e ▸ hset)))⟩

theorem resv_same {A : Name → Prop} {s s' : St} (hc : s'.root.context = s.root.context) : Resv A s s' := by
  unfold Resv Unres; rw [hc]; exact ⟨fun _ h => h, fun _ h => Or.inl h⟩

theorem resv_snoc {A : Name → Prop} {s s' : St} (i : Instr) (hc : s'.root.context = s.root.context ++ [i])
    (ht : ∀ t ∈ i.targets, A t) : Resv A s s' := by
  refine ⟨?_, ?_⟩
  · intro l hl; rw [hc, setLabels_append]; exact List.mem_append_left _ hl
  · intro l ⟨h1, h2⟩
    rw [hc, jumpTargets_append] at h1
    rw [hc, setLabels_append] at h2
    rcases List.mem_append.mp h1 with h | h
    · exact Or.inl ⟨h, fun hm => h2 (List.mem_append_left _ hm)⟩
    · right
      simp [jumpTargets] at h
      exact ht l h

theorem resv_push {A : Name → Prop} (i : Instr) (s : St) (ht : ∀ t ∈ i.targets, A t) : Resv A s (s.push i) :=
  resv_snoc i rfl ht

theorem noTargets {A : Name → Prop} {i : Instr} (h : i.targets = []) : ∀ t ∈ i.targets, A t := by
  rw [h]; exact fun _ h => nomatch h

theorem resv_pushVia {A : Name → Prop} (k : Nat) (i : Instr) (s : St) (ht : ∀ t ∈ i.targets, A t) :
    Resv A s (s.pushVia k i) :=
  resv_snoc i (root_pushVia k i s).1 ht

theorem set_push (l : Name) (s : St) : l ∈ setLabels (s.push (.setLabel l)).root.context := by
  rw [(root_push _ s).1, setLabels_snoc_label]
  exact List.mem_append_right _ (List.mem_singleton.mpr rfl)

theorem set_pushVia (k : Nat) (l : Name) (s : St) : l ∈ setLabels (s.pushVia k (.setLabel l)).root.context := by
  rw [(root_pushVia k _ s).1, setLabels_snoc_label]
  exact List.mem_append_right _ (List.mem_singleton.mpr rfl)

theorem resv_estep {A : Name → Prop} {s s' : St} (st : EStep s s') : Resv A s s' := by
  cases st with
  | incReg => exact resv_same rfl
  | emit i _ _ _ _ _ ht => exact resv_push i s (noTargets ht)
  | incEmit i _ _ _ _ ht => exact (resv_same (s' := s.incReg) rfl).trans (resv_push i _ (noTargets ht))
  | addErr k v l o => exact resv_same rfl
  | declare n v i _ _ _ _ _ ht =>
    refine Resv.trans (resv_same ?_) (resv_push i _ (noTargets ht))
    unfold St.registerInner St.mapFrames St.insertValue St.mapCur; cases s.inner <;> rfl

theorem resv_esteps {A : Name → Prop} {s s' : St} (h : ESteps s s') : Resv A s s' := by
  induction h with
  | refl => exact Resv.refl A _
  | tail _ st ih => exact ih.trans (resv_estep st)

theorem resv_leave {A : Name → Prop} (s : St) : Resv A s s.leave.2 := resv_same (root_leave_fields s).1

theorem resv_enter {A : Name → Prop} (s : St) : Resv A s s.enter := resv_same rfl

theorem resv_probe {A : Name → Prop} (stem : Name) (s : St) : Resv A s (s.probeLabel stem).2 := resv_same rfl

theorem resv_forbidden {A : Name → Prop} (rc bc cc : Bool) (s : St) : Resv A s (forbidden rc bc cc s) :=
  resv_esteps (esteps_forbidden rc bc cc s)

theorem resv_nestedReturn {A : Name → Prop} (g : Globals) (e : Expr) (s : St) : Resv A s (nestedReturn g e s).1 := by
  obtain ⟨s1, h1, h | ⟨r, h⟩⟩ := esteps_nestedReturn_pre g e s
  · rw [h]; exact resv_esteps h1
  · rw [h]; exact ((resv_esteps h1).trans (resv_push _ _ (noTargets rfl))).trans (resv_same rfl)

theorem resv_fnReturn {A : Name → Prop} (g : Globals) (resTy : Ty) (e : Expr) (rc : Bool) (s : St) :
    Resv A s (fnReturn g resTy e rc s).1 := by
  obtain ⟨s2, h, hq | ⟨r, hq⟩⟩ := fnReturn_split g resTy e rc s
  · rw [hq]; exact resv_esteps h
  · rw [hq]; dsimp only
    split <;> exact (resv_esteps h).trans (resv_push _ _ (noTargets rfl))

theorem isPrefix_append (a b : Name) : a.isPrefixOf (a ++ b) = true := by
  induction a with
  | nil => rfl
  | cons x xs ih => simp [ih]

theorem probeInnerF_prefix (used : Name → Bool) (a : Name) (ha : ∀ c ∈ a, c ≠ '.') (fuel : Nat) :
    ∀ (n : Name) (m : Nat), setAttrCounter n = a ++ '.' :: showNat m →
      a.isPrefixOf (probeInnerF used fuel n) = true := by
  induction fuel with
  | zero =>
    intro n m hm
    show a.isPrefixOf (setAttrCounter n) = true
    rw [hm]
    exact isPrefix_append _ _
  | succ fuel ih =>
    intro n m hm
    show a.isPrefixOf (if used (setAttrCounter n) then probeInnerF used fuel (setAttrCounter n) else setAttrCounter n) = true
    cases used (setAttrCounter n) with
    | false =>
      rw [hm]
      exact isPrefix_append _ _
    | true => exact ih _ (m + 1) (by rw [hm, setAttrCounter_succ a m ha])

theorem probeLabelF_prefix (used : Name → Bool) (fuel : Nat) (a : Name) (ha : ∀ c ∈ a, c ≠ '.') :
    a.isPrefixOf (probeLabelF used fuel a) = true := by
  unfold probeLabelF
  split
  · apply probeInnerF_prefix used a ha fuel a 0
    unfold setAttrCounter
    rw [splitDot_nodot a ha]
    simp [showNat, showNatF, digitChar]
  · simp

theorem loopEnd_prefix (s : St) : isLoopEndLabel (s.probeLabel "loop_end".toList).1 = true := by
  unfold isLoopEndLabel St.probeLabel
  exact probeLabelF_prefix _ _ _ (by decide +kernel)

/-- what may stay unresolved after a construct that was handed the end label `le` and the loop labels
`ll`: those labels (the loop's end label only when a `Break` for that loop occurs syntactically,
`brk`), and F3 leftovers of inner loops (`f3`) -/
def Allow (le : Option Name) (ll : Option (Name × Name)) (brk f3 : Bool) (l : Name) : Prop :=
  le = some l ∨ (∃ lb le', ll = some (lb, le') ∧ (l = lb ∨ (l = le' ∧ brk = true))) ∨
  (isLoopEndLabel l = true ∧ f3 = true)

theorem Allow.mono {le : Option Name} {ll : Option (Name × Name)} {b1 b2 f1 f2 : Bool} {l : Name}
    (h : Allow le ll b1 f1 l) (hb : b1 = true → b2 = true) (hf : f1 = true → f2 = true) : Allow le ll b2 f2 l := by
  rcases h with h | ⟨lb, le', h1, h2 | ⟨h2, h3⟩⟩ | ⟨h1, h2⟩
  · exact Or.inl h
  · exact Or.inr (Or.inl ⟨lb, le', h1, Or.inl h2⟩)
  · exact Or.inr (Or.inl ⟨lb, le', h1, Or.inr ⟨h2, hb h3⟩⟩)
  · exact Or.inr (Or.inr ⟨h1, hf h2⟩)

theorem Allow.noEnd {le : Option Name} {ll : Option (Name × Name)} {b f : Bool} {l : Name}
    (h : Allow none ll b f l) : Allow le ll b f l := by
  rcases h with h | h | h
  · cases h
  · exact Or.inr (Or.inl h)
  · exact Or.inr (Or.inr h)

theorem Allow.ofEnd {lEnd : Name} {ll : Option (Name × Name)} {b f : Bool} {l : Name} (h : l = lEnd) :
    Allow (some lEnd) ll b f l := Or.inl (h ▸ rfl)

theorem Allow.ofLoopBegin {le : Option Name} {p : Name × Name} {b f : Bool} {l : Name} (h : l = p.1) :
    Allow le (some p) b f l := Or.inr (Or.inl ⟨p.1, p.2, rfl, Or.inl h⟩)

theorem Allow.ofLoopEnd {le : Option Name} {p : Name × Name} {f : Bool} {l : Name} (h : l = p.2) :
    Allow le (some p) true f l := Or.inr (Or.inl ⟨p.1, p.2, rfl, Or.inr ⟨h, rfl⟩⟩)

theorem Allow.ofF3 {le : Option Name} {ll : Option (Name × Name)} {b f : Bool} {l : Name}
    (h : isLoopEndLabel l = true ∧ f = true) : Allow le ll b f l := Or.inr (Or.inr h)

theorem or_true_left {a b : Bool} (h : a = true) : (a || b) = true := by rw [h]; rfl

theorem or_true_right {a b : Bool} (h : b = true) : (a || b) = true := by rw [h]; simp

/-- two parts of a construct one after the other: the flags of the allowance are those of either -/
theorem Resv.seq {le : Option Name} {ll : Option (Name × Name)} {b1 b2 f1 f2 : Bool} {a b c : St}
    (h1 : Resv (Allow le ll b1 f1) a b) (h2 : Resv (Allow le ll b2 f2) b c) :
    Resv (Allow le ll (b1 || b2) (f1 || f2)) a c :=
  (h1.mono fun _ h => h.mono or_true_left or_true_left).trans (h2.mono fun _ h => h.mono or_true_right or_true_right)

/-- `hasBrkL` / `nestedBrkL` of the three statement lists, on one statement -/
def hasBrkN : NStmt → Bool
  | .ifS i => i.hasBrk
  | .brk => true
  | _ => false

/-- `f3L` of the three statement lists, on one statement -/
def f3N : NStmt → Bool
  | .ifS i => i.f3
  | .loop b => (LoopStmt.hasRetL b && LoopStmt.nestedBrkL b) || LoopStmt.f3L b
  | _ => false

theorem IfBodyStmt.hasBrkL_cons (st : IfBodyStmt) (tl : List IfBodyStmt) :
    IfBodyStmt.hasBrkL (st :: tl) = (hasBrkN st.toN || IfBodyStmt.hasBrkL tl) := by
  cases st <;> rfl

theorem IfLoopStmt.hasBrkL_cons (st : IfLoopStmt) (tl : List IfLoopStmt) :
    IfLoopStmt.hasBrkL (st :: tl) = (hasBrkN st.toN || IfLoopStmt.hasBrkL tl) := by
  cases st <;> rfl

theorem LoopStmt.nestedBrkL_cons (st : LoopStmt) (tl : List LoopStmt) :
    LoopStmt.nestedBrkL (st :: tl) = (hasBrkN st.toN || LoopStmt.nestedBrkL tl) := by
  cases st <;> rfl

theorem IfBodyStmt.f3L_cons (st : IfBodyStmt) (tl : List IfBodyStmt) :
    IfBodyStmt.f3L (st :: tl) = (f3N st.toN || IfBodyStmt.f3L tl) := by
  cases st <;> rfl

theorem IfLoopStmt.f3L_cons (st : IfLoopStmt) (tl : List IfLoopStmt) :
    IfLoopStmt.f3L (st :: tl) = (f3N st.toN || IfLoopStmt.f3L tl) := by
  cases st <;> rfl

theorem LoopStmt.f3L_cons (st : LoopStmt) (tl : List LoopStmt) :
    LoopStmt.f3L (st :: tl) = (f3N st.toN || LoopStmt.f3L tl) := by
  cases st <;> rfl

theorem BodyStmt.f3L_cons (st : BodyStmt) (tl : List BodyStmt) :
    BodyStmt.f3L (st :: tl) = (st.split.elim f3N (fun _ => false) || BodyStmt.f3L tl) := by
  cases st <;> rfl

theorem IfStmt.hasBrk_mk (cond : IfCond) (body : IfBodies) (els : Option IfBodies) (elif : Option IfStmt) :
    IfStmt.hasBrk (.mk cond body els elif) =
      (IfBodies.hasBrk body || (match els with | some eb => IfBodies.hasBrk eb | none => false) ||
        (match elif with | some ei => IfStmt.hasBrk ei | none => false)) := by
  cases els <;> cases elif <;> rfl

theorem IfStmt.f3_mk (cond : IfCond) (body : IfBodies) (els : Option IfBodies) (elif : Option IfStmt) :
    IfStmt.f3 (.mk cond body els elif) =
      (IfBodies.f3 body || (match els with | some eb => IfBodies.f3 eb | none => false) ||
        (match elif with | some ei => IfStmt.f3 ei | none => false)) := by
  cases els <;> cases elif <;> rfl

theorem ifCondCalc_resv (g : Globals) (c : IfCond) (lb le ln : Name) (isElse : Bool) (s : St) :
    Resv (fun l => l = lb ∨ l = (if isElse then le else ln)) s (ifCondCalc g c lb le ln isElse s) := by
  obtain ⟨s1, h1, h | ⟨i, h, ht, _⟩⟩ := ifCondCalc_split g c lb le ln isElse s
  · rw [h]; exact resv_esteps h1
  · rw [h]
    refine (resv_esteps h1).trans (resv_push i s1 ?_)
    intro t htm
    rw [ht] at htm
    simpa using htm

/-- the prologue leaves at most the else label (if there is an else part) or the end label
unresolved: the begin label is set at its end -/
theorem resv_ifPrologue (g : Globals) (cond : IfCond) (dup isElse : Bool) (le : Option Name) (s : St) :
    Resv (fun l => l = (if isElse then (ifPrologue g cond dup isElse le s).1 else (ifPrologue g cond dup isElse le s).2.1))
      s (ifPrologue g cond dup isElse le s).2.2 ∧
    (∀ l0, le = some l0 → (ifPrologue g cond dup isElse le s).2.1 = l0) := by
  unfold ifPrologue
  dsimp only
  have hc : (ifLabels le (if dup then s.addErr .ifElseDuplicated "if-condition".toList 1 0 else s)).2.2.2.root.context =
      s.root.context := by
    unfold ifLabels; cases le <;> cases dup <;> rfl
  have he : ∀ l0, le = some l0 →
      (ifLabels le (if dup then s.addErr .ifElseDuplicated "if-condition".toList 1 0 else s)).2.2.1 = l0 := by
    rintro l0 rfl; rfl
  generalize ifLabels le (if dup then s.addErr .ifElseDuplicated "if-condition".toList 1 0 else s) = p at hc he
  obtain ⟨lBegin, lElse, lEnd, s1⟩ := p
  refine ⟨?_, he⟩
  exact (((resv_same hc).trans (ifCondCalc_resv g cond lBegin lElse lEnd isElse s1)).trans
    (resv_push (.setLabel lBegin) _ (noTargets rfl))).cut lBegin (set_push lBegin _)
    (fun l hl hne => hl.resolve_left hne)

theorem resv_ifAfterBody {ll : Option (Name × Name)} {b f : Bool} (isElse r : Bool) (lElse lEnd : Name) (s : St) :
    Resv (Allow (some lEnd) ll b f) s (ifAfterBody isElse r lElse lEnd s).2 ∧
    (isElse = true → lElse ∈ setLabels (ifAfterBody isElse r lElse lEnd s).2.root.context) := by
  unfold ifAfterBody
  dsimp only
  have h1 : Resv (Allow (some lEnd) ll b f) s (if r then s else s.push (.jumpTo lEnd)) := by
    cases r
    · exact resv_push _ _ fun _ ht => Allow.ofEnd (List.mem_singleton.mp ht)
    · exact Resv.refl _ _
  generalize (if r then s else s.push (.jumpTo lEnd)) = s1 at h1
  cases isElse with
  | false => exact ⟨h1.trans (resv_leave s1), fun h => nomatch h⟩
  | true =>
    refine ⟨(h1.trans (resv_push _ _ (noTargets rfl))).trans (resv_leave _), fun _ => ?_⟩
    rw [(root_leave_fields _).1]
    exact set_push lElse s1

theorem resv_ifAfterElse {ll : Option (Name × Name)} {b f : Bool} (k : Nat) (r : Bool) (lEnd : Name) (s : St) :
    Resv (Allow (some lEnd) ll b f) s (ifAfterElse k r lEnd s) := by
  unfold ifAfterElse
  cases r
  · exact (resv_leave s).trans (resv_pushVia k _ _ fun _ ht => Allow.ofEnd (List.mem_singleton.mp ht))
  · exact resv_leave s

/-- the prologue, the body and what follows it up to leaving the block: the else label, if there is
an else part, has been set -/
theorem rv_ifThen {s s1 s2 : St} {isElse : Bool} {lElse lEnd : Name} {ll : Option (Name × Name)} {b f : Bool}
    (r : Bool) (rp : Resv (fun l => l = (if isElse then lElse else lEnd)) s s1)
    (rb : Resv (Allow (some lEnd) ll b f) s1 s2) :
    Resv (Allow (some lEnd) ll b f) s (ifAfterBody isElse r lElse lEnd s2).2 := by
  obtain ⟨ra, hElse⟩ := resv_ifAfterBody (ll := ll) (b := b) (f := f) isElse r lElse lEnd s2
  cases isElse with
  | false => exact ((rp.mono fun _ h => Allow.ofEnd h).trans rb).trans ra
  | true =>
    have r : Resv (fun l => l = lElse ∨ Allow (some lEnd) ll b f l) s _ :=
      ((rp.mono fun _ h => Or.inl h).trans (rb.mono fun _ h => Or.inr h)).trans (ra.mono fun _ h => Or.inr h)
    exact r.cut lElse (hElse rfl) (fun l h hne => h.resolve_left hne)

/-- closing an `if`: the end label, if it is the construct's own, is set -/
theorem rv_ifEpilogue {s s4 : St} {lEnd : Name} {b f : Bool} {le : Option Name} {ll : Option (Name × Name)} (k : Nat)
    (r : Resv (Allow (some lEnd) ll b f) s s4) (hle : ∀ l0, le = some l0 → lEnd = l0) :
    Resv (Allow le ll b f) s (ifEpilogue k le lEnd s4) := by
  unfold ifEpilogue
  cases le with
  | some l0 => rw [← hle l0 rfl]; exact r
  | none =>
    refine (r.trans (resv_pushVia k _ _ (noTargets rfl))).cut lEnd (set_pushVia k lEnd s4) fun l h hne => ?_
    rcases h with h | h
    · exact absurd (Option.some.inj h).symm hne
    · exact Or.inr h

theorem resv_loopPrologue (A : Name → Prop) (s : St) :
    Resv A s (loopPrologue s).2.2 ∧ (loopPrologue s).1 ∈ setLabels (loopPrologue s).2.2.root.context ∧
    isLoopEndLabel (loopPrologue s).2.1 = true := by
  unfold loopPrologue
  dsimp only
  have h1 : Resv (fun l => A l ∨ l = (s.enter.probeLabel "loop_begin".toList).1) s
      (s.enter.probeLabel "loop_begin".toList).2 := (resv_enter s).trans (resv_probe _ _)
  generalize s.enter.probeLabel "loop_begin".toList = r1 at h1
  obtain ⟨lb, s1⟩ := r1
  have h2 := h1.trans (resv_probe "loop_end".toList s1)
  have hp := loopEnd_prefix s1
  generalize s1.probeLabel "loop_end".toList = r2 at h2 hp
  obtain ⟨le, s2⟩ := r2
  have h3 := h2.trans (resv_push (.jumpTo lb) s2 fun _ ht => Or.inr (List.mem_singleton.mp ht))
  have h4 := h3.trans (resv_push (.setLabel lb) _ (noTargets rfl))
  exact ⟨h4.cut lb (set_push lb _) fun l hl hne => hl.resolve_right hne, set_push lb _, hp⟩

theorem resv_loopEpilogue (r : Bool) (lb le : Name) (s : St) :
    Resv (fun l => l = lb) s (loopEpilogue r lb le s) ∧
    (r = false → le ∈ setLabels (loopEpilogue r lb le s).root.context) := by
  unfold loopEpilogue
  dsimp only
  cases r with
  | true => exact ⟨resv_leave s, fun h => nomatch h⟩
  | false =>
    refine ⟨((resv_push _ _ fun _ ht => List.mem_singleton.mp ht).trans
      (resv_push _ _ (noTargets rfl))).trans (resv_leave _), fun _ => ?_⟩
    rw [(root_leave_fields _).1]
    exact set_push le _

/-- `loop_statement`: what stays unresolved is an F3 leftover — of an inner loop, or this loop's end
label when the loop returned at loop level and a `Break` targets it -/
theorem rv_loopWrap (k : Name → Name → Bool → Bool → Bool → St → St × Bool) (ret brk f3 : Bool)
    (hk : ∀ lb le s, Resv (Allow none (some (lb, le)) brk f3) s (k lb le false false false s).1)
    (hret : ∀ lb le s, (k lb le false false false s).2 = true → ret = true) (s : St) :
    Resv (fun l => isLoopEndLabel l = true ∧ ((ret && brk) || f3) = true) s (loopWrap k s) := by
  unfold loopWrap
  dsimp only
  obtain ⟨r1, hset, hpre⟩ := resv_loopPrologue (Allow none (some ((loopPrologue s).1, (loopPrologue s).2.1)) brk f3) s
  generalize loopPrologue s = p at r1 hset hpre
  obtain ⟨lb, le, s1⟩ := p
  have r2 := hk lb le s1
  have hr := hret lb le s1
  generalize k lb le false false false s1 = q at r2 hr
  obtain ⟨s2, r⟩ := q
  obtain ⟨r3, hle⟩ := resv_loopEpilogue r lb le s2
  have rall := (r1.trans r2).trans (r3.mono fun _ h => Allow.ofLoopBegin h)
  -- the loop's labels are its own: `lb` is set, `le` is set unless the body returned at loop level
  refine ⟨rall.1, fun l hl => (rall.2 l hl).imp id fun h => ?_⟩
  rcases h with h | ⟨lb', le', hll, h | ⟨h1, h2⟩⟩ | ⟨h1, h2⟩
  · cases h
  · cases hll; subst h; exact absurd (r3.1 _ (r2.1 _ hset)) hl.2
  · cases hll; subst h1
    cases r with
    | false => exact absurd (hle rfl) hl.2
    | true => exact ⟨hpre, by rw [hr rfl, h2]; rfl⟩
  · exact ⟨h1, or_true_right h2⟩

variable (g : Globals)

theorem ret_loopBody : ∀ (l : List LoopStmt) (lb le : Name) (rc bc cc : Bool) (s : St),
    (loopBody g l lb le rc bc cc s).2 = true → rc = true ∨ LoopStmt.hasRetL l = true := by
  intro l lb le
  induction l with
  | nil => exact fun rc _ _ _ => Or.inl
  | cons st tl ih =>
    intro rc bc cc s
    rw [loopBody_cons]
    cases st with
    | ret e => exact fun _ => Or.inr rfl
    | _ => exact ih _ _ _ _

theorem IfBodyStmt.toN_ne_jump (st : IfBodyStmt) : st.toN ≠ .brk ∧ st.toN ≠ .cont := by
  cases st <;> exact ⟨NStmt.noConfusion, NStmt.noConfusion⟩

/-- `hK`: without loop labels the statement is one of an if body, so `Break` / `Continue`, which
would jump to them, do not occur -/
theorem rv_nStmt (K : BodyK) (st : NStmt) (f : Flags) (s : St)
    (hK : K.ll = none → st ≠ .brk ∧ st ≠ .cont)
    (h : st.Sub (fun i => ∀ le ll s, Resv (Allow le ll i.hasBrk i.f3) s (ifCondition g i le ll s))
      (fun l => ∀ lb le rc bc cc s, Resv (Allow none (some (lb, le)) (LoopStmt.nestedBrkL l) (LoopStmt.f3L l)) s
        (loopBody g l lb le rc bc cc s).1)) :
    Resv (Allow K.lEnd K.ll (hasBrkN st) (f3N st)) s (nStmt g K st f s).1 := by
  obtain ⟨lEnd, ll⟩ := K
  unfold nStmt
  have h0 : Resv (Allow lEnd ll (hasBrkN st) (f3N st)) s (forbidden f.rc f.bc f.cc s) := resv_forbidden _ _ _ s
  generalize forbidden f.rc f.bc f.cc s = s0 at h0
  cases st with
  | letB b => exact h0.trans (resv_esteps (esteps_letBinding g b s0))
  | bind b => exact h0.trans (resv_esteps (esteps_binding g b s0))
  | call c => exact h0.trans (resv_esteps (esteps_callStmt g c s0))
  | ifS i => exact h0.trans (h _ _ s0)
  | loop l =>
    exact h0.trans ((rv_loopWrap _ (LoopStmt.hasRetL l) _ _ (fun lb le s => h lb le _ _ _ s)
      (fun lb le s h => (ret_loopBody g l lb le false false false s h).resolve_left Bool.false_ne_true) s0).mono
      fun _ h => Allow.ofF3 h)
  | ret e => exact h0.trans (resv_nestedReturn g e s0)
  | brk =>
    cases ll with
    | none => exact absurd rfl (hK rfl).1
    | some p => exact h0.trans (resv_push _ _ fun _ ht => Allow.ofLoopEnd (List.mem_singleton.mp ht))
  | cont =>
    cases ll with
    | none => exact absurd rfl (hK rfl).2
    | some p => exact h0.trans (resv_push _ _ fun _ ht => Allow.ofLoopBegin (List.mem_singleton.mp ht))

theorem rv_ind : BodyInd (fun i => ∀ le ll s, Resv (Allow le ll i.hasBrk i.f3) s (ifCondition g i le ll s))
    (fun b => ∀ lEnd ll s, Resv (Allow (some lEnd) ll b.hasBrk b.f3) s (ifBodies g b lEnd ll s).1)
    (fun l => ∀ lEnd ll rc s,
      Resv (Allow (some lEnd) ll (IfBodyStmt.hasBrkL l) (IfBodyStmt.f3L l)) s (ifBody g l lEnd ll rc s).1)
    (fun l => ∀ lEnd lb le rc bc cc s,
      Resv (Allow (some lEnd) (some (lb, le)) (IfLoopStmt.hasBrkL l) (IfLoopStmt.f3L l)) s
        (ifLoopBody g l lEnd lb le rc bc cc s).1)
    (fun l => ∀ lb le rc bc cc s,
      Resv (Allow none (some (lb, le)) (LoopStmt.nestedBrkL l) (LoopStmt.f3L l)) s (loopBody g l lb le rc bc cc s).1) where
  ifS cond body els elif hbody hels helif labelEnd labelLoop s := by
    rw [IfStmt.hasBrk_mk, IfStmt.f3_mk]
    unfold ifCondition
    dsimp only
    obtain ⟨rp, hle⟩ := resv_ifPrologue g cond (els.isSome && elif.isSome) (els.isSome || elif.isSome) labelEnd s
    generalize ifPrologue g cond (els.isSome && elif.isSome) (els.isSome || elif.isSome) labelEnd s = p at rp hle
    obtain ⟨lElse, lEnd, s1⟩ := p
    have r3 := rv_ifThen (ifBodies g body lEnd labelLoop s1).2 rp (hbody lEnd labelLoop s1)
    generalize ifAfterBody (els.isSome || elif.isSome) (ifBodies g body lEnd labelLoop s1).2 lElse lEnd
      (ifBodies g body lEnd labelLoop s1).1 = q3 at r3
    obtain ⟨k, s3⟩ := q3
    refine rv_ifEpilogue k ?_ hle
    -- the flags of the allowance are the disjunction of those of the body, the else body, the else-if
    cases els with
    | some eb =>
      exact (r3.seq (((resv_enter s3).trans (hels eb rfl lEnd labelLoop s3.enter)).trans
        (resv_ifAfterElse k _ lEnd _))).seq (Resv.refl _ _)
    | none =>
      cases elif with
      | some ei => exact (r3.seq (Resv.refl _ _)).seq (helif ei rfl (some lEnd) labelLoop s3)
      | none => exact (r3.seq (Resv.refl _ _)).seq (Resv.refl _ _)
  ifb l h lEnd ll s := h lEnd ll false s
  loopb l h lEnd ll s := by
    cases ll with
    | some p => exact h lEnd p.1 p.2 false false false s
    | none => exact resv_same (by rw [ifBodies, root_setPanic])
  ifNil _ _ _ s := Resv.refl _ s
  ifCons st tl h ht lEnd ll rc s := by
    rw [ifBody_cons, IfBodyStmt.hasBrkL_cons, IfBodyStmt.f3L_cons]
    exact (rv_nStmt g ⟨some lEnd, ll⟩ st.toN _ s (fun _ => st.toN_ne_jump) h).seq (ht lEnd ll _ _)
  ifLoopNil _ _ _ _ _ _ s := Resv.refl _ s
  ifLoopCons st tl h ht lEnd lb le rc bc cc s := by
    rw [ifLoopBody_cons, IfLoopStmt.hasBrkL_cons, IfLoopStmt.f3L_cons]
    exact (rv_nStmt g ⟨some lEnd, some (lb, le)⟩ st.toN _ s nofun h).seq (ht lEnd lb le _ _ _ _)
  loopNil _ _ _ _ _ s := Resv.refl _ s
  loopCons st tl h ht lb le rc bc cc s := by
    rw [loopBody_cons, LoopStmt.nestedBrkL_cons, LoopStmt.f3L_cons]
    exact (rv_nStmt g ⟨none, some (lb, le)⟩ st.toN _ s nofun h).seq (ht lb le _ _ _ _)

theorem rv_ifCondition : ∀ (i : IfStmt) (le : Option Name) (ll : Option (Name × Name)) (s : St),
    Resv (Allow le ll i.hasBrk i.f3) s (ifCondition g i le ll s) := (rv_ind g).ifStmt

theorem rv_ifBodies : ∀ (b : IfBodies) (lEnd : Name) (ll : Option (Name × Name)) (s : St),
    Resv (Allow (some lEnd) ll b.hasBrk b.f3) s (ifBodies g b lEnd ll s).1 := (rv_ind g).bodies

theorem rv_ifBody : ∀ (l : List IfBodyStmt) (lEnd : Name) (ll : Option (Name × Name)) (rc : Bool) (s : St),
    Resv (Allow (some lEnd) ll (IfBodyStmt.hasBrkL l) (IfBodyStmt.f3L l)) s (ifBody g l lEnd ll rc s).1 :=
  (rv_ind g).ifBody

theorem rv_ifLoopBody : ∀ (l : List IfLoopStmt) (lEnd lb le : Name) (rc bc cc : Bool) (s : St),
    Resv (Allow (some lEnd) (some (lb, le)) (IfLoopStmt.hasBrkL l) (IfLoopStmt.f3L l)) s (ifLoopBody g l lEnd lb le rc bc cc s).1 :=
  (rv_ind g).ifLoopBody

theorem rv_loopBody : ∀ (l : List LoopStmt) (lb le : Name) (rc bc cc : Bool) (s : St),
    Resv (Allow none (some (lb, le)) (LoopStmt.nestedBrkL l) (LoopStmt.f3L l)) s (loopBody g l lb le rc bc cc s).1 :=
  (rv_ind g).loopBody

theorem Allow.noLoop {le : Option Name} {b b' f : Bool} {l : Name} (h : Allow le none b f l) : Allow le none b' f l := by
  rcases h with h | ⟨_, _, h, _⟩ | h
  · exact Or.inl h
  · cases h
  · exact Or.inr (Or.inr h)

/-- at function level nothing is handed down: what stays unresolved is an F3 leftover -/
theorem rv_bodyStmts (resTy : Ty) (l : List BodyStmt) (rc : Bool) (s : St) :
    Resv (Allow none none false (BodyStmt.f3L l)) s (bodyStmts g resTy l rc s).1 := by
  induction l generalizing rc s with
  | nil => exact Resv.refl _ s
  | cons st tl ht =>
    rw [bodyStmts_cons, BodyStmt.f3L_cons]
    cases hq : st.split with
    | inl n =>
      exact ((rv_nStmt g ⟨none, none⟩ n _ s (fun _ => (BodyStmt.split_inl hq).2) ((rv_ind g).sub n)).mono
        fun _ h => h.noLoop (b' := false)).seq (ht _ _)
    | inr e => exact ((resv_forbidden _ _ _ s).trans (resv_fnReturn g resTy e rc _)).trans (ht _ _)

/-- one function, any program: an unresolved jump target is a loop end label of a function that
matches F3 -/
theorem C10_resolved_function (f : FnDecl) : ∀ l ∈ unresolvedTargets (functionBody g f).root.context,
    isLoopEndLabel l = true ∧ f.hasF3 = true := by
  have hres : Resv (Allow none none false f.hasF3) St.init (functionBody g f) := by
    unfold functionBody FnDecl.hasF3
    dsimp only
    have h2 := (resv_esteps (esteps_initParams f.params St.init paramInv_init)).trans
      (rv_bodyStmts g f.result.toTy f.body false _)
    generalize bodyStmts g f.result.toTy f.body false (initParams f.params St.init) = q at h2
    obtain ⟨s2, rc⟩ := q
    cases rc
    · exact h2.trans (resv_same rfl)
    · exact h2
  intro l hl
  unfold unresolvedTargets at hl
  rw [List.mem_eraseDups, List.mem_filter] at hl
  have hu : Unres (functionBody g f) l := ⟨hl.1, by simpa using hl.2⟩
  rcases hres.2 l hu with h | h | ⟨_, _, h, _⟩ | h
  · simp [Unres, St.init, Block.fresh, jumpTargets] at h
  · cases h
  · cases h
  · exact h

theorem mem_ite {α : Type} {c : Prop} [Decidable c] {l₁ l₂ : List α} {t : α} (h : t ∈ if c then l₁ else l₂) :
    t ∈ l₁ ∨ t ∈ l₂ := by
  split at h
  · exact Or.inl h
  · exact Or.inr h

theorem mem_zip_map_self {α β : Type} (F : α → β) : ∀ (l : List α) (x : α) (y : β), (x, y) ∈ l.zip (l.map F) → y = F x := by
  intro l x y
  induction l with
  | nil => exact nofun
  | cons a as ih =>
    intro h
    rcases List.mem_cons.mp h with h | h
    · cases h; rfl
    · exact ih h

/-- **C10** — on the model's result the output predicate reports nothing but instances of the
recorded finding F3, for every program: no label is set twice (`C10_unique`), and every jump target
that is not set is the never-set end label of a loop with a loop-level return and a break -/
theorem C10 (p : Program) : ∀ t ∈ P_C10 p (run p), t = "F3:loop-end-label-never-set-after-loop-level-return" := by
  intro t ht
  unfold P_C10 at ht
  rw [C10_unique, List.nil_append] at ht
  rcases mem_ite ht with ht | ht
  · cases ht
  rcases mem_ite ht with ht | ht
  · rw [List.mem_eraseDups, List.mem_flatMap] at ht
    obtain ⟨⟨⟨f, b⟩, i⟩, hx, ht⟩ := ht
    have hfb := List.fst_mem_of_mem_zipIdx hx
    dsimp only at ht hfb
    rw [List.mem_map] at ht
    obtain ⟨l, hl, rfl⟩ := ht
    have hr : (run p).roots = p.fnDecls.map fun f => (functionBody (pass2 p (pass1 p GState.init)).globals f).root := by
      unfold run; simp [List.map_map, Function.comp_def, fns_eq_fnDecls p]
    rw [hr] at hfb
    cases mem_zip_map_self _ _ _ _ hfb
    obtain ⟨h1, h2⟩ := C10_resolved_function _ f l hl
    simp [h1, h2]
  · cases ht

/-- the full statement (every target is set) fails on the current tree: finding F3.
`fn m() -> u8 { loop { if true { break } return 1 } return 2 }` jumps to `loop_end`, which is never set -/
theorem C10_full_false :
    unresolvedTargets (run [.fn ⟨['m'], [], .prim .u8,
      [.loop [.ifS (.mk (.single (.mk (.lit (.bool true)) none)) (.loopb [.brk]) none none), .ret (.mk (.lit (.u8 1)) none)],
       .ret (.mk (.lit (.u8 2)) none)]⟩]).roots[0]!.context = ["loop_end".toList] := by decide +kernel

/-- non-vacuity of the resolution clause: with the loop-level return removed the same function has
no unresolved target although it sets four labels -/
example :
    (unresolvedTargets (run [.fn ⟨['m'], [], .prim .u8,
      [.loop [.ifS (.mk (.single (.mk (.lit (.bool true)) none)) (.loopb [.brk]) none none)],
       .ret (.mk (.lit (.u8 2)) none)]⟩]).roots[0]!.context,
     (setLabels (run [.fn ⟨['m'], [], .prim .u8,
      [.loop [.ifS (.mk (.single (.mk (.lit (.bool true)) none)) (.loopb [.brk]) none none)],
       .ret (.mk (.lit (.u8 2)) none)]⟩]).roots[0]!.context).length) = ([], 4) := by decide +kernel

theorem driver_C10 (p : Program) : ∀ t ∈ failingOf .C10 p (run p) true, t ∈ knownTagsOf .C10 := by
  intro t ht
  have := C10 p t ht
  rw [this]; simp [knownTagsOf]

end SemVerif
