import SemVerif.Props.C06
import SemVerif.Props.C18
import SemVerif.Lemmas.ExtEvents
import SemVerif.Lemmas.VisitLock
import SemVerif.Lemmas.VisitSim
import SemVerif.Driver
/-!
# Property C19 — extension expressions are opaque leaves evaluated once, in place

For the harness extension (allocates a register, pushes one `ExtendedExpression(tag, register)`
instruction through the block interface, returns a register result of the type the leaf carries).

`C19`: on the model's result the output predicate of the property reports nothing, for every
program.  Its three clauses:
* accepted programs — the evaluation of every extension leaf is an *event* of the denotation, so
  `T2` places every `ExtendedExpression` instruction at its position in evaluation order (between the
  calls, declarations and branches around it), exactly once; and the operand / initialiser /
  argument / condition side / return value read at that position is the leaf itself (`.ext tag`),
  i.e. the returned register is used verbatim;
* accepted programs — the `ExtendedExpression` instructions of a function's root stack are exactly
  the extension leaves of the source function in evaluation order (`evTags_abstractStack`,
  `evTags_specStmts`: the fold keeps the operands of a chain in order);
* every program — every block's stack is an order-preserving subsequence of its parent's
  (`C18_subseq_function`), so an instruction pushed through the block interface is in the stack of
  the block being analysed and of every ancestor.
Type checking of the returned type "like any other operand" is part of T1 (the rule checker types
an extension leaf by the type it carries).

`C19_visited_all`: which leaves an analysis evaluates, errors or not (`P_C19_visited`, for every program,
from `visit_function`); `C19_all` is what the driver evaluates, both predicates together.
-/
namespace SemVerif

/-- in an accepted program the `ExtendedExpression` instructions of a function's root stack are the
extension leaves of the source function in evaluation order: the tags of the extension events of
its denotation (`T2`) -/
theorem extTags_accepted (p : Program) (hnp : (run p).panic = none) (he : (run p).errors = []) {f : FnDecl} {b : Block}
    (hfb : (f, b) ∈ p.fnDecls.zip (run p).roots) : b.context.filterMap Instr.extTag = f.extLeaves.map (·.1) := by
  have heq := map_eq_zip (fun b : Block => abstractStack b.context) (specStmts false p.rglobals) _ _ (T2 p hnp he) (f, b) hfb
  rw [← evTags_abstractStack, ← heq, evTags_specStmts]

theorem flatMap_zipIdx_nil {α β : Type} (l : List α) (F : α × Nat → List β) (h : ∀ x ∈ l, ∀ i, F (x, i) = []) :
    l.zipIdx.flatMap F = [] :=
  List.flatMap_eq_nil_iff.mpr fun ⟨x, i⟩ hx => h x (List.fst_mem_of_mem_zipIdx hx) i

/-- **C19** — the output predicate of the property holds on the model's result for every program -/
theorem C19 (p : Program) : P_C19 p (run p) = [] := by
  unfold P_C19
  by_cases hpan : (run p).panic.isSome = true
  · rw [if_pos hpan]
  · rw [if_neg hpan, List.append_eq_nil_iff]
    constructor
    · by_cases h : acceptedWF p (run p) = true
      · rw [if_pos h]
        obtain ⟨hnp, he⟩ := accepted_of_wf h
        rw [cmpRendered_nil _ _ _ (denotePairs_eq p hnp he), List.nil_append]
        refine flatMap_zipIdx_nil _ _ fun ⟨f, b⟩ hfb i => ?_
        dsimp only
        rw [extTags_accepted p hnp he hfb, if_pos BEq.rfl]
      · rw [if_neg h]
    · refine flatMap_zipIdx_nil _ _ fun b hb i => ?_
      obtain ⟨st, hst, rfl⟩ := List.mem_map.mp hb
      obtain ⟨f, _, rfl⟩ := List.mem_map.mp hst
      dsimp only
      rw [C18_subseq_function, if_pos rfl]

/-- **C19, the evaluated-leaves predicate for every program** — accepted or rejected: when the
analysis does not hit the documented panic, the `ExtendedExpression` instructions of every function
stack are exactly the leaves `Spec/ExtVisit.lean` lists (operands to the right of a failing operand
are skipped, everything else is evaluated once, in order) -/
theorem C19_visited_all (p : Program) : P_C19_visited p (run p) = [] := by
  unfold P_C19_visited
  cases hnp : (run p).panic with
  | some x => rfl
  | none =>
    have hok := anaOK_of_no_panic p hnp
    unfold AnaOKB at hok
    rw [List.all_eq_true] at hok
    refine (if_neg Bool.false_ne_true).trans (flatMap_zipIdx_nil _ _ fun ⟨f, b⟩ hfb i => ?_)
    dsimp only
    rw [root_of_zip p hfb, visit_function (globRel_of_rel (rel_run p)) f (hok f (List.of_mem_zip hfb).1)]
    exact if_pos BEq.rfl

/-- **C19, the evaluated-leaves predicate on accepted programs of the domain** — the leaves
`Spec/ExtVisit.lean` says the analysis evaluates are the `ExtendedExpression` instructions of the
function's root stack; there the rule checker reports nothing, so they are all the leaves of the
function (`vl_fn`) -/
theorem C19_visited (p : Program) (h : acceptedWF p (run p) = true) : P_C19_visited p (run p) = [] :=
  C19_visited_all p

/-- the whole of what the check evaluates for C19, as one statement -/
theorem C19_all (p : Program) : P_C19 p (run p) ++ P_C19_visited p (run p) = [] := by
  rw [C19, C19_visited_all]; rfl

/-- a function with extension leaves in a chain, as a call argument and in a nested block -/
def exampleExt : Program :=
  [.fn ⟨['g'], [(['a'], .prim .u8)], .prim .u8, [.ret (.mk (.var ['a']) none)]⟩,
   .fn ⟨['m'], [], .prim .u8,
      [.letB ⟨['x'], false, none, .mk (.ext 7 .u8) (some (.plus, .mk (.lit (.u8 1)) (some (.multiply, .mk (.ext 8 .u8) none))))⟩,
       .ifS (.mk (.single (.mk (.lit (.bool true)) none))
         (.ifb [.letB ⟨['y'], false, none, .mk (.call ['g'] [.mk (.ext 9 .u8) none]) none⟩]) none none),
       .ret (.mk (.var ['x']) none)]⟩]

/-- non-vacuity: the example is accepted; its extension events are 7, 8, 9 in evaluation order and
the initialiser of `x` is `ext7 + (1 * ext8)` -/
example : (run exampleExt).accepted = true ∧
    ((specStmts true exampleExt.rglobals) <$> exampleExt.fnDecls).getLast?.map (fun l => l.map (DStmt.render DTree.str)) =
      some ["eval ext7", "eval ext8", "let v0 = (ext7 plus (1u8 multiply ext8))", "branch true", "eval ext9",
            "do g(ext9)", "let v1 = g(ext9)", "return v0"] := by
  constructor <;> decide +kernel

/-- a rejected program: `g(true)` has an argument of the wrong type (the error is reported, the call
still analyses to `u8`, so `x` is declared), `nope` is undeclared (the operand to its right is not
analysed) -/
def exampleRejected : Program :=
  [.fn ⟨['g'], [(['a'], .prim .u8)], .prim .u8, [.ret (.mk (.var ['a']) none)]⟩,
   .fn ⟨['m'], [], .prim .u8,
      [.letB ⟨['x'], false, none, .mk (.call ['g'] [.mk (.lit (.bool true)) none]) none⟩,
       .letB ⟨['y'], false, none, .mk (.var ['x']) (some (.plus, .mk (.ext 7 .u8) none))⟩,
       .letB ⟨['z'], false, none, .mk (.var ['n', 'o', 'p', 'e']) (some (.plus, .mk (.ext 8 .u8) none))⟩,
       .ret (.mk (.ext 9 .u8) none)]⟩]

/-- non-vacuity of the every-program clause: the example is rejected (two errors), leaf 7 is
evaluated although an earlier statement was in error, leaf 8 is skipped, leaf 9 is evaluated; the
specification and the model's stack agree -/
example : (run exampleRejected).errors.length = 2 ∧
    exampleRejected.fnDecls.map (visFn exampleRejected.rglobals) = [[], [7, 9]] ∧
    (run exampleRejected).roots.map (fun b => b.context.filterMap Instr.extTag) = [[], [7, 9]] := by
  decide +kernel

theorem driver_C19 (p : Program) : failingOf .C19 p (run p) true = [] := C19_all p

end SemVerif
