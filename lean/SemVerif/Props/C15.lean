import SemVerif.Spec.Preds
import SemVerif.Inventory
import SemVerif.Lemmas.Misc
import SemVerif.Driver
/-!
# Property C15 — global symbol tables match the declarations; first declaration wins

`C15`: for every program the tables and the global stack computed by the model's declaration
passes are exactly the ones of the declarative registration `declPhase` of the rule set: the
first declaration of each name whose own checks pass, types first, then constants and functions in
source order, one declaration instruction each; one root block per function; no key twice.
Proved by a simulation between `pass1`/`pass2` and `declTypes`/`declConstsFns`.
-/
namespace SemVerif

theorem rlookup_eq_assocGet {β : Type} (n : Name) (l : List (Name × β)) : rlookup n l = assocGet n l := by
  induction l with
  | nil => rfl
  | cons x rest ih => simp only [rlookup, assocGet, ih]

structure Rel (gs : GState) (ds : DS) : Prop where
  types : gs.types = ds.rtypes.map tyEntry
  gtypes : ds.g.types = ds.rtypes.map tyEntry
  consts : gs.consts = ds.rdecls.filterMap constEntry
  gconsts : ds.g.consts = gs.consts.map fun x => (x.1, x.2.ty)
  funcs : gs.funcs = ds.rdecls.filterMap funcEntry
  gfuncs : ds.g.funcs = gs.funcs.map fun x => (x.1, x.2.params, x.2.ty)
  ctx : gs.context = ds.rtypes.map tyInstr ++ ds.rdecls.filterMap declInstr
  errs : gs.errors.map (fun e => errKey e.kind e.value) =
    (ds.viols.filter (·.enforced)).map (fun v => errKey v.kind v.name)
  ktypes : (gs.types.map (·.1)).Nodup
  kconsts : (gs.consts.map (·.1)).Nodup
  kfuncs : (gs.funcs.map (·.1)).Nodup

theorem rel_init : Rel GState.init { g := { types := [], consts := [], funcs := [] }, viols := [] } :=
  ⟨rfl, rfl, rfl, rfl, rfl, rfl, rfl, rfl, .nil, .nil, .nil⟩

theorem rel_addErr {gs : GState} {ds : DS} (h : Rel gs ds) (k : ErrKind) (n : Name) (r : String) :
    Rel (gs.addErr k n) (ds.viol r k n true) :=
  ⟨h.types, h.gtypes, h.consts, h.gconsts, h.funcs, h.gfuncs, h.ctx,
   by simp [GState.addErr, DS.viol, List.filter_append, h.errs], h.ktypes, h.kconsts, h.kfuncs⟩

/-- an unenforced note changes nothing the relation looks at -/
theorem rel_note {gs : GState} {ds : DS} (h : Rel gs ds) (k : ErrKind) (n : Name) (r : String) :
    Rel gs (ds.viol r k n false) :=
  ⟨h.types, h.gtypes, h.consts, h.gconsts, h.funcs, h.gfuncs, h.ctx,
   by simp [DS.viol, List.filter_append, h.errs], h.ktypes, h.kconsts, h.kfuncs⟩

theorem nodup_keys_insert {β : Type} (k : Name) (v : β) (l : List (Name × β)) (hnone : assocGet k l = none)
    (hk : (l.map (·.1)).Nodup) : ((assocInsert k v l).map (·.1)).Nodup := by
  rw [assocInsert_absent k v l hnone, List.map_append, List.nodup_append]
  refine ⟨hk, List.pairwise_singleton _ _, ?_⟩
  intro a ha b hb heq
  rw [List.map_singleton, List.mem_singleton] at hb
  rw [heq, hb] at ha
  exact (assocGet_eq_none_iff k l).mp hnone ha

theorem rel_regType {gs : GState} {ds : DS} (h : Rel gs ds) (d : StructDecl) (hnone : assocGet d.name gs.types = none)
    (hd : ds.rdecls = []) :
    Rel { gs with types := assocInsert d.name (.struct d.name (attrsToMap d.attrs 0 .nil)) gs.types,
                  context := gs.context ++ [.types d.name (attrsToMap d.attrs 0 .nil)] }
        { ds with g := { ds.g with types := ds.g.types ++ [(d.name, .struct d.name (attrsToMap d.attrs 0 .nil))] },
                  rtypes := ds.rtypes ++ [d] } := by
  refine ⟨?types, ?gtypes, h.consts, h.gconsts, h.funcs, h.gfuncs, ?ctx, h.errs, nodup_keys_insert _ _ _ hnone h.ktypes,
    h.kconsts, h.kfuncs⟩
  case types =>
    dsimp only
    rw [assocInsert_absent _ _ _ hnone, h.types, List.map_append]
    rfl
  case gtypes =>
    dsimp only
    rw [h.gtypes, List.map_append]
    rfl
  case ctx =>
    dsimp only
    rw [h.ctx, hd, List.map_append, List.filterMap_nil, List.append_nil, List.append_nil]
    rfl

theorem rel_pass1 (names : List Name) (p : Program) : ∀ (gs : GState) (ds : DS), Rel gs ds → ds.rdecls = [] →
    Rel (pass1 p gs) (declTypes names p ds) ∧ (declTypes names p ds).rdecls = [] := by
  induction p with
  | nil => intro gs ds h hd; exact ⟨h, hd⟩
  | cons t rest ih =>
    intro gs ds h hd
    cases t with
    | imp _ => exact ih gs ds h hd
    | const _ => exact ih gs ds h hd
    | fn _ => exact ih gs ds h hd
    | types d =>
      show Rel (pass1 rest (declType d gs)) (if _ then _ else _) ∧ DS.rdecls (if _ then _ else _) = []
      unfold declType
      rw [rlookup_eq_assocGet, h.gtypes, ← h.types]
      cases hs : assocGet d.name gs.types with
      | some _ => exact ih _ _ (rel_addErr h _ _ _) hd
      | none =>
        -- an attribute of unknown type is noted (D2 is not enforced), the struct is registered all the same
        refine ih _ _ (rel_regType (gs := gs) ?h d hs ?hd) ?hd
        case h =>
          split
          · exact rel_note h _ _ _
          · exact h
        case hd => split <;> exact hd

theorem typeExists_eq {gs : GState} {ds : DS} (h : Rel gs ds) (t : Ty) : gs.typeExists t = typeRegistered ds.g t := by
  unfold GState.typeExists typeRegistered
  cases t with
  | prim _ => rfl
  | struct n a => simp only; rw [rlookup_eq_assocGet, h.gtypes, h.types]
  | array u n => simp only; rw [rlookup_eq_assocGet, h.gtypes, h.types]

theorem constLookup_eq {gs : GState} {ds : DS} (h : Rel gs ds) (n : Name) :
    (rlookup n ds.g.consts).isSome = (assocGet n gs.consts).isSome := by
  rw [rlookup_eq_assocGet, h.gconsts, assocGet_map, Option.isSome_map]

theorem checkConstTail_go_eq {gs : GState} {ds : DS} (h : Rel gs ds) (e : CExpr) :
    checkConstTail.go gs e = constTailMissing ds.g e := by
  induction e with
  | last v =>
    cases v with
    | val _ => rfl
    | const n =>
      show (if (assocGet n gs.consts).isSome then none else some n) = if (rlookup n ds.g.consts).isSome then none else some n
      rw [constLookup_eq h]
  | cons v _ rest ih =>
    cases v with
    | val _ => exact ih
    | const n =>
      show (if (assocGet n gs.consts).isSome then checkConstTail.go gs rest else some n) =
        if (rlookup n ds.g.consts).isSome then constTailMissing ds.g rest else some n
      rw [constLookup_eq h, ih]

theorem checkConstTail_eq {gs : GState} {ds : DS} (h : Rel gs ds) (e : CExpr) :
    checkConstTail gs e.operation = e.tail?.bind (constTailMissing ds.g) := by
  cases e with
  | last v => rfl
  | cons v o r => exact checkConstTail_go_eq h r

theorem checkParamTypes_eq {gs : GState} {ds : DS} (h : Rel gs ds) (ps : List (Name × ATy)) :
    checkParamTypes gs ps = paramTypeMissing ds.g ps := by
  induction ps with
  | nil => rfl
  | cons x rest ih =>
    show (if gs.typeExists x.2.toTy then checkParamTypes gs rest else some x.1) =
      if typeRegistered ds.g x.2.toTy then paramTypeMissing ds.g rest else some x.1
    rw [typeExists_eq h, ih]

theorem rel_noteHead {gs : GState} {ds : DS} (h : Rel gs ds) (d : ConstDecl) : Rel gs (noteHead d ds) := by
  unfold noteHead
  cases d.value.headV with
  | const n => dsimp only; split; exact h; exact rel_note h _ _ _
  | val _ => exact h

theorem rel_regConst {gs : GState} {ds : DS} (h : Rel gs ds) (d : ConstDecl) (hnone : assocGet d.name gs.consts = none) :
    Rel { gs with consts := assocInsert d.name ⟨d.name, d.ty.toTy, d.value⟩ gs.consts,
                  context := gs.context ++ [.const ⟨d.name, d.ty.toTy, d.value⟩] }
        { ds with g := { ds.g with consts := ds.g.consts ++ [(d.name, d.ty.toTy)] }, rdecls := ds.rdecls ++ [.const d] } := by
  have hins := assocInsert_absent d.name (⟨d.name, d.ty.toTy, d.value⟩ : ConstSem) gs.consts hnone
  refine ⟨h.types, h.gtypes, ?consts, ?gconsts, ?funcs, h.gfuncs, ?ctx, h.errs, h.ktypes,
    nodup_keys_insert _ _ _ hnone h.kconsts, h.kfuncs⟩
  case consts =>
    dsimp only
    rw [hins, h.consts, List.filterMap_append]
    rfl
  case gconsts =>
    dsimp only
    rw [hins, h.gconsts, List.map_append]
    rfl
  case funcs =>
    dsimp only
    rw [h.funcs, List.filterMap_append]
    exact (List.append_nil _).symm
  case ctx =>
    dsimp only
    rw [h.ctx, List.filterMap_append, List.append_assoc]
    rfl

theorem rel_regFn {gs : GState} {ds : DS} (h : Rel gs ds) (f : FnDecl) (hnone : assocGet f.name gs.funcs = none) :
    Rel { gs with funcs := assocInsert f.name ⟨f.name, f.result.toTy, f.params.map fun p => p.2.toTy⟩ gs.funcs,
                  context := gs.context ++ [.fnDecl f.name (f.params.map fun p => ⟨p.1, p.2.toTy⟩) f.result.toTy] }
        { ds with g := { ds.g with funcs := ds.g.funcs ++ [(f.name, f.params.map (·.2.toTy), f.result.toTy)] },
                  rdecls := ds.rdecls ++ [.fn f] } := by
  have hins := assocInsert_absent f.name (⟨f.name, f.result.toTy, f.params.map fun p => p.2.toTy⟩ : Func) gs.funcs hnone
  refine ⟨h.types, h.gtypes, ?consts, h.gconsts, ?funcs, ?gfuncs, ?ctx, h.errs, h.ktypes, h.kconsts,
    nodup_keys_insert _ _ _ hnone h.kfuncs⟩
  case consts =>
    dsimp only
    rw [h.consts, List.filterMap_append]
    exact (List.append_nil _).symm
  case funcs =>
    dsimp only
    rw [hins, h.funcs, List.filterMap_append]
    rfl
  case gfuncs =>
    dsimp only
    rw [hins, h.gfuncs, List.map_append]
    rfl
  case ctx =>
    dsimp only
    rw [h.ctx, List.filterMap_append, List.append_assoc]
    rfl

theorem rel_pass2 (p : Program) : ∀ (gs : GState) (ds : DS), Rel gs ds → Rel (pass2 p gs) (declConstsFns p ds) := by
  induction p with
  | nil => intro gs ds h; exact h
  | cons t rest ih =>
    intro gs ds h
    cases t with
    | imp _ => exact ih gs ds h
    | types _ => exact ih gs ds h
    | const d =>
      show Rel (pass2 rest (declConst d gs)) (if _ then _ else _)
      unfold declConst
      rw [constLookup_eq h]
      cases hs : assocGet d.name gs.consts with
      | some _ => exact ih _ _ (rel_addErr h _ _ _)
      | none =>
        have h0 : Rel gs (noteHead d ds) := rel_noteHead h d
        generalize noteHead d ds = ds0 at h0
        simp only [Option.isSome_none, Bool.false_eq_true, if_false]
        rw [checkConstTail_eq h0, typeExists_eq h0]
        cases d.value.tail?.bind (constTailMissing ds0.g) with
        | some n => exact ih _ _ (rel_addErr h0 _ _ _)
        | none =>
          cases typeRegistered ds0.g d.ty.toTy with
          | false => exact ih _ _ (rel_addErr h0 _ _ _)
          | true => exact ih _ _ (rel_regConst h0 d hs)
    | fn f =>
      show Rel (pass2 rest (declFn f gs)) (if _ then _ else _)
      unfold declFn
      have hlook : (rlookup f.name ds.g.funcs).isSome = (assocGet f.name gs.funcs).isSome := by
        rw [rlookup_eq_assocGet, h.gfuncs, assocGet_map (fun (x : Func) => (x.params, x.ty)), Option.isSome_map]
      rw [hlook, typeExists_eq h, checkParamTypes_eq h]
      cases hs : assocGet f.name gs.funcs with
      | some _ => exact ih _ _ (rel_addErr h _ _ _)
      | none =>
        cases typeRegistered ds.g f.result.toTy with
        | false => exact ih _ _ (rel_addErr h _ _ _)
        | true =>
          cases paramTypeMissing ds.g f.params with
          | some n => exact ih _ _ (rel_addErr h _ _ _)
          | none => exact ih _ _ (rel_regFn h f hs)

theorem rel_run (p : Program) : Rel (pass2 p (pass1 p GState.init)) (declPhase p) := by
  unfold declPhase
  exact rel_pass2 p _ _ (rel_pass1 p.typeNames p _ _ rel_init rfl).1

/-- **C15** — for every program the global tables, the global stack and the number of root blocks
of the model's result are those of the declarative registration -/
theorem C15 (p : Program) : P_C15 p (run p) = [] := by
  have h := rel_run p
  unfold P_C15
  by_cases hp : (run p).panic.isSome = true
  · rw [if_pos hp]
  · rw [if_neg hp]
    have hfn : (run p).roots.length = p.fnDecls.length := by
      rw [← fns_eq_fnDecls]
      exact (List.length_map _).trans (List.length_map _)
    have hk : (nodupB ((run p).types.map (·.1)) && nodupB ((run p).consts.map (·.1)) &&
        nodupB ((run p).funcs.map (·.1))) = true := by
      rw [Bool.and_eq_true, Bool.and_eq_true]
      exact ⟨⟨nodupB_of_nodup _ h.ktypes, nodupB_of_nodup _ h.kconsts⟩, nodupB_of_nodup _ h.kfuncs⟩
    -- the six checks of the predicate, last to first
    exact (append_ite_nil hk _ _).trans <| (append_ite_nil (beq_iff_eq.mpr hfn) _ _).trans <|
      (append_ite_nil (beq_iff_eq.mpr h.ctx.symm) _ _).trans <|
      (append_ite_nil (beq_iff_eq.mpr (congrArg sortByKey h.funcs.symm)) _ _).trans <|
      (append_ite_nil (beq_iff_eq.mpr (congrArg sortByKey h.consts.symm)) _ _).trans
        (if_pos (beq_iff_eq.mpr (congrArg sortByKey h.types.symm)))

theorem driver_C15 (p : Program) : failingOf .C15 p (run p) true = [] := C15 p

end SemVerif
