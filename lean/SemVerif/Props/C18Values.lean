import SemVerif.Props.C06
import SemVerif.Props.C18
import SemVerif.Lemmas.SpecShape
import SemVerif.Props.C13
import SemVerif.Driver
/-!
# Property C18, value tables

`C18_values`: in every accepted program, every block of every function's block tree — the root and
every if-, else-, else-if- and loop-body block, at any depth — has a value table that holds exactly
the names declared directly in that block (parameters in the root), each bound to the record of its
latest declaration: the table equals what inserting the block's direct declarations (the
declarations of its stack that are in no child's stack), in order, under the source names of the
block's `let`s (and parameters) yields.

Proof: the T2 induction carries `FramesOk` (Lemmas/ValInv.lean) — for the live blocks and, at the
moment a block is left, for the finished block, with the names the source denotation has declared in
the corresponding open block; `spec_sourceShape` (Lemmas/SpecShape.lean) says that the denotation
closes exactly the nesting and names of `FnDecl.sourceShape`.
-/
namespace SemVerif

theorem C18_values_function {g : Globals} {rg : RGlobals} (hg : GlobRel g rg) (hn : GNames g) (f : FnDecl)
    (hok : BodyStmt.anaOKL f.body = true) (he : (functionBody g f).errors = []) :
    valuesOk f.sourceShape (functionBody g f).root = true := by
  obtain ⟨_, _, _, hv⟩ := T2_function hg hn f hok he
  obtain ⟨fr, hd, hnames, hk⟩ := spec_sourceShape rg f
  rw [hd, hk] at hv
  -- one open block on the specification side, hence one live block: the root
  generalize hdts : (functionBody g f).dts = ts at hv
  cases hv with
  | cons hf _ hrest =>
    cases hrest
    have hin : (functionBody g f).inner = [] :=
      List.eq_nil_of_length_eq_zero (Nat.succ.inj ((dts_length _).symm.trans (congrArg List.length hdts)))
    unfold St.dts St.frames at hdts
    rw [hin] at hdts
    injection hdts with h1 _
    unfold valuesOk FnDecl.sourceShape
    rw [← hnames, h1]
    exact valuesOkD_of_frame hf

/-- **C18 (value tables)** — accepted programs -/
theorem C18_values (p : Program) (hnp : (run p).panic = none) (hacc : (run p).errors = []) :
    P_C18_values p (run p) = [] := by
  unfold P_C18_values
  rw [List.flatMap_eq_nil_iff, fns_eq_fnDecls]
  rintro ⟨⟨f, b⟩, i⟩ hx
  have hm : (f, b) ∈ p.fnDecls.zip (run p).roots := List.fst_mem_of_mem_zipIdx hx
  obtain ⟨hg, hn, hok, he⟩ := accepted_mem p hnp hacc (List.of_mem_zip hm).1
  dsimp only
  rw [root_of_zip p hm, C18_values_function hg hn f hok he]
  rfl

/-- the form the check evaluates: the value-table clause under its guard -/
theorem C18_values_guarded (p : Program) : (if acceptedWF p (run p) then P_C18_values p (run p) else []) = [] := by
  split
  · rename_i h
    exact C18_values p (accepted_of_wf h).1 (accepted_of_wf h).2
  · rfl

/-- non-vacuity: `exampleT2` is accepted and has a nested block that declares a value; the clause is
not trivially true — a table with an entry for a name the block does not declare is rejected (next
example) -/
example : (run exampleT2).accepted = true ∧
    exampleT2.fnDecls.map FnDecl.sourceShape =
      [.node [['x'], ['x']] [.node [['y']] []], .node [['a']] []] := by
  refine ⟨by decide +kernel, ?_⟩
  rfl

example : tabOk [['x']] [(['x'], ⟨['x', '.', '0'], .prim .u8, false, false, false⟩), (['z'], ⟨['z', '.', '0'], .prim .u8, false, false, false⟩)]
    [⟨['x', '.', '0'], .prim .u8, false, false, false⟩] = false := by
  decide +kernel

theorem driver_C18 (p : Program) (hok : LoopOKB p = true) : failingOf .C18 p (run p) true = [] := by
  unfold failingOf
  dsimp only
  rw [C18 p hok, C18_values_guarded, if_neg]
  · rfl
  · have := C13 p
    unfold P_C13 at this
    rw [hok] at this
    simp only [Bool.true_and] at this
    intro hp
    rw [if_pos hp] at this
    cases this

end SemVerif
