import SemVerif.Generated
import SemVerif.Wire
/-!
# Inventory — the tabular facts about the Rust source that the hand-written model accounts for

`SemVerif.Generated` is regenerated from /repo/src on every run; the theorems at the end compare
it with the tables below (written when the model was written).  A new error kind, instruction
variant, label stem, panic site (`unwrap`, `expect`, index, counter `+ 1`), statement that mutates
`self.global` / `self.errors` / `self.context`, or serde attribute breaks one of them.
-/
namespace SemVerif.Model

/-- `StateErrorKind` variants in declaration order -/
def errKinds : List String := ["Common", "ConstantAlreadyExist", "ConstantNotFound", "WrongLetType", "WrongExpressionType", "TypeAlreadyExist", "FunctionAlreadyExist", "ValueNotFound", "ValueNotStruct", "ValueNotStructField", "ValueIsNotMutable", "FunctionNotFound", "FunctionParameterTypeWrong", "ReturnNotFound", "ReturnAlreadyCalled", "IfElseDuplicated", "TypeNotFound", "WrongReturnType", "ConditionExpressionWrongType", "ConditionIsEmpty", "ConditionExpressionNotSupported", "ForbiddenCodeAfterReturnDeprecated", "ForbiddenCodeAfterContinueDeprecated", "ForbiddenCodeAfterBreakDeprecated", "FunctionArgumentNameDuplicated"]

/-- `SemanticStackContext` variants with their field names -/
def instrShapes : List (String × List String) := [
  ("ExpressionValue", ["expression", "register_number"]),
  ("ExpressionConst", ["expression", "register_number"]),
  ("ExpressionStructValue", ["expression", "index", "register_number"]),
  ("ExpressionOperation", ["operation", "left_value", "right_value", "register_number"]),
  ("Call", ["call", "params", "register_number"]),
  ("LetBinding", ["let_decl", "expr_result"]),
  ("Binding", ["val", "expr_result"]),
  ("FunctionDeclaration", ["fn_decl"]),
  ("Constant", ["const_decl"]),
  ("Types", ["type_decl"]),
  ("ExpressionFunctionReturn", ["expr_result"]),
  ("ExpressionFunctionReturnWithLabel", ["expr_result"]),
  ("SetLabel", ["label"]),
  ("JumpTo", ["label"]),
  ("IfConditionExpression", ["expr_result", "label_if_begin", "label_if_end"]),
  ("ConditionExpression", ["left_result", "right_result", "condition", "register_number"]),
  ("JumpFunctionReturn", ["expr_result"]),
  ("LogicCondition", ["logic_condition", "left_register_result", "right_register_result", "register_number"]),
  ("IfConditionLogic", ["label_if_begin", "label_if_end", "result_register"]),
  ("FunctionArg", ["value", "func_arg"]),
  ("ExtendedExpression", ["_0"])
]

/-- string literals passed to `get_and_set_next_label`, in source order -/
def labelStems : List String := ["if_begin", "if_else", "if_end", "loop_begin", "loop_end"]

/-- `Display for PrimitiveTypes` -/
def primNames : List (String × String) := [("U8", "u8"), ("U16", "u16"), ("U32", "u32"), ("U64", "u64"), ("I8", "i8"), ("I16", "i16"), ("I32", "i32"), ("I64", "i64"), ("F32", "f32"), ("F64", "f64"), ("Bool", "bool"), ("Char", "char"), ("Ptr", "ptr"), ("None", "()")]

/-- every `unwrap` / `expect` / `unreachable!` / `panic!` / slice index / counter `+ 1` in the
non-codec code of semantic.rs and block_state.rs, per file and kind.  The model reproduces each:
the two `expect`s of `if_condition` are `setPanic` sites, the two `unreachable!`s are dead by
construction of the fold, the indexings are guarded (call arity, `split('.')` has a first part),
the counters are `Nat`.  Aggregated per file and kind so that moving code into a helper of the
same file is not a change; a new site is. -/
def panicSites : List (String × String × Nat) := [
  ("semantic.rs", "index", 2),
  ("semantic.rs", "expect", 2),
  ("semantic.rs", "unreachable", 2),
  ("block_state.rs", "add", 2),
  ("block_state.rs", "index", 3)
]

/-- statements of semantic.rs that mutate `self.global`, `self.errors` or `self.context` and the calls
of the two recording helpers, per kind: errors are recorded only through `add_error`, function
stacks only through `add_state_context`, the global tables only by insertion (nothing is removed,
cleared or reassigned). -/
def mutationSites : List (String × Nat) := [
  ("global.types.insert", 1),
  ("global.constants.insert", 1),
  ("global.functions.insert", 1),
  ("global.context", 3),
  ("errors.push", 1),
  ("context.push", 1),
  ("add_error", 34),
  ("add_state_context", 1)
]

/-- no function reachable from `function_body` mutates `self.global` (C16, C17) -/
def bodyGlobalMutators : List String := []

/-- serde shape of every item deriving `Serialize` under the `codec` feature:
(file, item, container attributes, fields or variants) -/
def serdeShapes : List (String × String × String × List String) := [
  ("ast.rs", "struct ImportName", "", ["tuple"]),
  ("ast.rs", "struct ConstantName", "", ["tuple"]),
  ("ast.rs", "struct FunctionName", "", ["tuple"]),
  ("ast.rs", "struct ParameterName", "", ["tuple"]),
  ("ast.rs", "struct ValueName", "", ["tuple"]),
  ("ast.rs", "struct CodeLocation", "", ["tuple"]),
  ("ast.rs", "enum PrimitiveTypes", "tag = \"type\", content = \"content\"", ["U8:unit", "U16:unit", "U32:unit", "U64:unit", "I8:unit", "I16:unit", "I32:unit", "I64:unit", "F32:unit", "F64:unit", "Bool:unit", "Char:unit", "Ptr:unit", "None:unit"]),
  ("ast.rs", "struct ExpressionStructValue", "", ["name@borrow", "attribute"]),
  ("ast.rs", "struct StructType", "", ["attr_name@borrow", "attr_type"]),
  ("ast.rs", "struct StructTypes", "", ["name@borrow", "attributes"]),
  ("ast.rs", "enum Type", "tag = \"type\", content = \"content\"", ["Primitive:tuple1", "Struct:tuple1@borrow", "Array:tuple2"]),
  ("ast.rs", "enum ConstantValue", "tag = \"type\", content = \"content\"", ["Constant:tuple1@borrow", "Value:tuple1"]),
  ("ast.rs", "struct ConstantExpression", "", ["value@borrow", "operation"]),
  ("ast.rs", "struct Constant", "", ["name@borrow", "constant_type", "constant_value"]),
  ("ast.rs", "struct FunctionParameter", "", ["name@borrow", "parameter_type"]),
  ("ast.rs", "struct FunctionStatement", "", ["name@borrow", "parameters", "result_type", "body", "_marker"]),
  ("ast.rs", "enum PrimitiveValue", "tag = \"type\", content = \"content\"", ["U8:tuple1", "U16:tuple1", "U32:tuple1", "U64:tuple1", "I8:tuple1", "I16:tuple1", "I32:tuple1", "I64:tuple1", "F32:tuple1", "F64:tuple1", "Bool:tuple1", "Char:tuple1", "Ptr:unit", "None:unit"]),
  ("ast.rs", "enum ExpressionValue", "tag = \"type\", content = \"content\"", ["ValueName:tuple1@borrow", "PrimitiveValue:tuple1", "FunctionCall:tuple3", "StructValue:tuple1", "Expression:tuple3", "ExtendedExpression:tuple1", "_marker:tuple2@skip"]),
  ("ast.rs", "enum ExpressionOperations", "tag = \"type\", content = \"content\"", ["Plus:unit", "Minus:unit", "Multiply:unit", "Divide:unit", "ShiftLeft:unit", "ShiftRight:unit", "And:unit", "Or:unit", "Xor:unit", "Eq:unit", "NotEq:unit", "Great:unit", "Less:unit", "GreatEq:unit", "LessEq:unit"]),
  ("ast.rs", "struct Expression", "", ["expression_value@borrow", "operation"]),
  ("ast.rs", "struct LetBinding", "tag = \"type\"", ["name@borrow", "mutable", "value_type", "value"]),
  ("ast.rs", "struct Binding", "", ["name@borrow", "value"]),
  ("ast.rs", "struct FunctionCall", "", ["name@borrow", "parameters"]),
  ("ast.rs", "enum Condition", "tag = \"type\", content = \"content\"", ["Great:unit", "Less:unit", "Eq:unit", "GreatEq:unit", "LessEq:unit", "NotEq:unit"]),
  ("ast.rs", "enum LogicCondition", "tag = \"type\", content = \"content\"", ["And:unit", "Or:unit"]),
  ("ast.rs", "struct ExpressionCondition", "", ["left@borrow", "condition", "right"]),
  ("ast.rs", "struct ExpressionLogicCondition", "", ["left@borrow", "right"]),
  ("ast.rs", "enum IfCondition", "tag = \"type\", content = \"content\"", ["Single:tuple3@borrow", "Logic:tuple3"]),
  ("ast.rs", "struct IfStatement", "", ["condition@borrow", "body", "else_statement", "else_if_statement"]),
  ("ast.rs", "enum BodyStatement", "tag = \"type\", content = \"content\"", ["LetBinding:tuple3@borrow", "Binding:tuple3", "FunctionCall:tuple3", "If:tuple3", "Loop:tuple3", "Expression:tuple3", "Return:tuple3"]),
  ("ast.rs", "enum IfBodyStatement", "tag = \"type\", content = \"content\"", ["LetBinding:tuple3@borrow", "Binding:tuple3", "FunctionCall:tuple3", "If:tuple3", "Loop:tuple3", "Return:tuple3"]),
  ("ast.rs", "enum IfLoopBodyStatement", "tag = \"type\", content = \"content\"", ["LetBinding:tuple3@borrow", "Binding:tuple3", "FunctionCall:tuple3", "If:tuple3", "Loop:tuple3", "Return:tuple3", "Break:unit", "Continue:unit"]),
  ("ast.rs", "enum IfBodyStatements", "tag = \"type\", content = \"content\"", ["If:tuple3@borrow", "Loop:tuple3"]),
  ("ast.rs", "enum LoopBodyStatement", "tag = \"type\", content = \"content\"", ["LetBinding:tuple3@borrow", "Binding:tuple3", "FunctionCall:tuple3", "If:tuple3", "Loop:tuple3", "Return:tuple3", "Break:unit", "Continue:unit"]),
  ("ast.rs", "enum MainStatement", "tag = \"type\", content = \"content\"", ["Import:tuple1@borrow", "Constant:tuple1", "Types:tuple1", "Function:tuple3"]),
  ("semantic.rs", "struct GlobalState", "", ["constants", "types", "functions", "context"]),
  ("semantic.rs", "struct State", "", ["global", "context@skip", "errors", "error", "phantom"]),
  ("mod.rs", "struct ValueName", "", ["tuple"]),
  ("mod.rs", "struct InnerValueName", "", ["tuple"]),
  ("mod.rs", "struct LabelName", "", ["tuple"]),
  ("mod.rs", "struct FunctionName", "", ["tuple"]),
  ("mod.rs", "struct ConstantName", "", ["tuple"]),
  ("mod.rs", "enum ConstantValue", "tag = \"type\", content = \"content\"", ["Constant:tuple1", "Value:tuple1"]),
  ("mod.rs", "struct ConstantExpression", "", ["value", "operation"]),
  ("mod.rs", "struct Constant", "", ["name", "constant_type", "constant_value"]),
  ("mod.rs", "struct Value", "", ["inner_name", "inner_type", "mutable", "alloca", "malloc"]),
  ("mod.rs", "struct Function", "", ["inner_name", "inner_type", "parameters"]),
  ("mod.rs", "struct ParameterName", "", ["tuple"]),
  ("mod.rs", "struct FunctionParameter", "", ["name", "parameter_type"]),
  ("mod.rs", "struct FunctionStatement", "", ["name", "parameters", "result_type", "body"]),
  ("mod.rs", "enum BodyStatement", "tag = \"type\", content = \"content\"", ["LetBinding:tuple1", "Binding:tuple1", "FunctionCall:tuple1", "If:tuple1", "Loop:tuple1", "Expression:tuple1", "Return:tuple1"]),
  ("mod.rs", "struct LetBinding", "", ["name", "mutable", "value_type", "value"]),
  ("mod.rs", "enum PrimitiveValue", "tag = \"type\", content = \"content\"", ["U8:tuple1", "U16:tuple1", "U32:tuple1", "U64:tuple1", "I8:tuple1", "I16:tuple1", "I32:tuple1", "I64:tuple1", "F32:tuple1", "F64:tuple1", "Bool:tuple1", "Char:tuple1", "Ptr:unit", "None:unit"]),
  ("mod.rs", "struct FunctionCall", "", ["name", "parameters"]),
  ("mod.rs", "struct Binding", "", ["name", "value"]),
  ("types.rs", "struct TypeName", "", ["tuple"]),
  ("types.rs", "enum Type", "tag = \"type\", content = \"content\"", ["Primitive:tuple1", "Struct:tuple1", "Array:tuple2"]),
  ("types.rs", "enum PrimitiveTypes", "tag = \"type\", content = \"content\"", ["U8:unit", "U16:unit", "U32:unit", "U64:unit", "I8:unit", "I16:unit", "I32:unit", "I64:unit", "F32:unit", "F64:unit", "Bool:unit", "Char:unit", "Ptr:unit", "None:unit"]),
  ("types.rs", "struct StructTypes", "", ["name", "attributes", "methods"]),
  ("types.rs", "struct StructAttributeType", "", ["attr_name", "attr_index", "attr_type"]),
  ("expression.rs", "struct ExpressionResult", "", ["expr_type", "expr_value"]),
  ("expression.rs", "enum ExpressionResultValue", "tag = \"type\", content = \"content\"", ["PrimitiveValue:tuple1", "Register:tuple1"]),
  ("expression.rs", "struct ExtendedExpressionValue", "", ["tuple"]),
  ("expression.rs", "enum ExpressionValue", "tag = \"type\", content = \"content\"", ["ValueName:tuple1", "PrimitiveValue:tuple1", "StructValue:tuple1", "FunctionCall:tuple1", "Expression:tuple1", "ExtendedExpression:tuple1"]),
  ("expression.rs", "struct ExpressionStructValue", "", ["name", "attribute"]),
  ("expression.rs", "enum ExpressionOperations", "tag = \"type\", content = \"content\"", ["Plus:unit", "Minus:unit", "Multiply:unit", "Divide:unit", "ShiftLeft:unit", "ShiftRight:unit", "And:unit", "Or:unit", "Xor:unit", "Eq:unit", "NotEq:unit", "Great:unit", "Less:unit", "GreatEq:unit", "LessEq:unit"]),
  ("expression.rs", "struct Expression", "", ["expression_value", "operation"]),
  ("condition.rs", "enum Condition", "tag = \"type\", content = \"content\"", ["Great:unit", "Less:unit", "Eq:unit", "GreatEq:unit", "LessEq:unit", "NotEq:unit"]),
  ("condition.rs", "enum LogicCondition", "tag = \"type\", content = \"content\"", ["And:unit", "Or:unit"]),
  ("condition.rs", "struct ExpressionCondition", "", ["left", "condition", "right"]),
  ("condition.rs", "struct ExpressionLogicCondition", "", ["left", "right"]),
  ("condition.rs", "enum IfCondition", "tag = \"type\", content = \"content\"", ["Single:tuple1", "Logic:tuple1"]),
  ("condition.rs", "struct IfStatement", "", ["condition", "body", "else_statement", "else_if_statement"]),
  ("condition.rs", "enum IfBodyStatements", "tag = \"type\", content = \"content\"", ["If:tuple1", "Loop:tuple1"]),
  ("condition.rs", "enum LoopBodyStatement", "tag = \"type\", content = \"content\"", ["LetBinding:tuple1", "Binding:tuple1", "FunctionCall:tuple1", "If:tuple1", "Loop:tuple1", "Return:tuple1", "Break:unit", "Continue:unit"]),
  ("condition.rs", "enum IfBodyStatement", "tag = \"type\", content = \"content\"", ["LetBinding:tuple1", "Binding:tuple1", "FunctionCall:tuple1", "If:tuple1", "Loop:tuple1", "Return:tuple1"]),
  ("condition.rs", "enum IfLoopBodyStatement", "tag = \"type\", content = \"content\"", ["LetBinding:tuple1", "Binding:tuple1", "FunctionCall:tuple1", "If:tuple1", "Loop:tuple1", "Return:tuple1", "Break:unit", "Continue:unit"]),
  ("error.rs", "enum StateErrorKind", "tag = \"type\", content = \"content\"", ["Common:unit", "ConstantAlreadyExist:unit", "ConstantNotFound:unit", "WrongLetType:unit", "WrongExpressionType:unit", "TypeAlreadyExist:unit", "FunctionAlreadyExist:unit", "ValueNotFound:unit", "ValueNotStruct:unit", "ValueNotStructField:unit", "ValueIsNotMutable:unit", "FunctionNotFound:unit", "FunctionParameterTypeWrong:unit", "ReturnNotFound:unit", "ReturnAlreadyCalled:unit", "IfElseDuplicated:unit", "TypeNotFound:unit", "WrongReturnType:unit", "ConditionExpressionWrongType:unit", "ConditionIsEmpty:unit", "ConditionExpressionNotSupported:unit", "ForbiddenCodeAfterReturnDeprecated:unit", "ForbiddenCodeAfterContinueDeprecated:unit", "ForbiddenCodeAfterBreakDeprecated:unit", "FunctionArgumentNameDuplicated:unit"]),
  ("error.rs", "struct StateErrorLocation", "", ["tuple"]),
  ("error.rs", "struct StateErrorResult", "", ["kind", "value", "location"]),
  ("semantic.rs", "struct SemanticStack", "", ["tuple"]),
  ("semantic.rs", "enum SemanticStackContext", "tag = \"type\", content = \"content\"", ["ExpressionValue:struct:expression,register_number", "ExpressionConst:struct:expression,register_number", "ExpressionStructValue:struct:expression,index,register_number", "ExpressionOperation:struct:operation,left_value,right_value,register_number", "Call:struct:call,params,register_number", "LetBinding:struct:let_decl,expr_result", "Binding:struct:val,expr_result", "FunctionDeclaration:struct:fn_decl", "Constant:struct:const_decl", "Types:struct:type_decl", "ExpressionFunctionReturn:struct:expr_result", "ExpressionFunctionReturnWithLabel:struct:expr_result", "SetLabel:struct:label", "JumpTo:struct:label", "IfConditionExpression:struct:expr_result,label_if_begin,label_if_end", "ConditionExpression:struct:left_result,right_result,condition,register_number", "JumpFunctionReturn:struct:expr_result", "LogicCondition:struct:logic_condition,left_register_result,right_register_result,register_number", "IfConditionLogic:struct:label_if_begin,label_if_end,result_register", "FunctionArg:struct:value,func_arg", "ExtendedExpression:tuple1"]),
  ("block_state.rs", "struct BlockState", "", ["values", "inner_values_name", "labels", "last_register_number", "manual_return", "parent@serialize_with = \"rc_serializer::serialize_option\", deserialize_with = \"rc_serializer::deserialize_option\"", "children@serialize_with = \"rc_serializer::serialize_vec\", deserialize_with = \"rc_serializer::deserialize_vec\"", "context"])
]

end SemVerif.Model

namespace SemVerif
open SemVerif

theorem inv_errKinds : Generated.errKinds = Model.errKinds := rfl
theorem inv_instrShapes : Generated.instrShapes = Model.instrShapes := rfl
theorem inv_labelStems : Generated.labelStems = Model.labelStems := rfl
theorem inv_primNames : Generated.primNames = Model.primNames := rfl
/-- every listed site kind of `gen` is known to `model`, with at most as many occurrences: removing or
merging sites (a helper that replaces two identical `expect`s) is not a change, a new site is -/
def sitesLe2 (gen model : List (String × String × Nat)) : Bool :=
  gen.all fun (f, k, n) => model.any fun (f', k', m) => f == f' && k == k' && n ≤ m

def sitesLe1 (gen model : List (String × Nat)) : Bool :=
  gen.all fun (k, n) => model.any fun (k', m) => k == k' && n ≤ m

theorem inv_panicSites : sitesLe2 Generated.panicSites Model.panicSites = true := by decide +kernel
theorem inv_mutationSites : sitesLe1 Generated.mutationSites Model.mutationSites = true := by decide +kernel
theorem inv_bodyGlobalMutators : Generated.bodyGlobalMutators = Model.bodyGlobalMutators := rfl
theorem inv_serdeShapes : Generated.serdeShapes = Model.serdeShapes := rfl

theorem inv_errKinds_model :
    Model.errKinds = [ErrKind.common, .constantAlreadyExist, .constantNotFound, .wrongLetType,
      .wrongExpressionType, .typeAlreadyExist, .functionAlreadyExist, .valueNotFound, .valueNotStruct,
      .valueNotStructField, .valueIsNotMutable, .functionNotFound, .functionParameterTypeWrong,
      .returnNotFound, .returnAlreadyCalled, .ifElseDuplicated, .typeNotFound, .wrongReturnType,
      .conditionExpressionWrongType, .conditionIsEmpty, .conditionExpressionNotSupported,
      .forbiddenCodeAfterReturnDeprecated, .forbiddenCodeAfterContinueDeprecated,
      .forbiddenCodeAfterBreakDeprecated, .functionArgumentNameDuplicated].map ErrKind.wire := rfl

/-- label stems contain no dot, so the probe appends its counter to the whole stem (this is the
hypothesis `ha` of `probeLabelF_prefix`, Props/C10Res.lean) -/
theorem inv_stems_nodot : ∀ s ∈ Model.labelStems, s.toList.contains '.' = false := by decide +kernel

theorem inv_prio_le_max : ∀ o : Op, Generated.prio o ≤ Generated.maxPrio := by
  intro o; cases o <;> decide

end SemVerif
